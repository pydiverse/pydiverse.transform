/-
  C20 — all export targets describe the same table.
  The repo's part is the dispatch in `export`; the targets are re-encodings of the Polars frame.
  The theorems say that each encoding carries exactly the frame's names, order and values.
-/
import Pdt.Model.Export
import Pdt.Props.Lemmas.Lists

namespace Pdt.C20
open Pdt Pdt.Export

theorem dictOfLists_names (f : Frame) : (dictOfLists f).map (·.1) = f.names := by
  rw [dictOfLists, List.map_map]
  exact range_getD f.names ""

theorem dictOfLists_roundtrip (f : Frame) (hwf : f.wf) :
    rowsOfDict (dictOfLists f) f.rows.length = f.rows := by
  unfold rowsOfDict dictOfLists column
  apply List.ext_getElem
  · simp
  · intro r h1 h2
    simp only [List.length_map, List.length_range] at h1
    simp only [List.getElem_map, List.getElem_range, List.map_map, Function.comp_def]
    have hrow := hwf (f.rows[r]) (List.getElem_mem h2)
    have : ∀ i, (List.map (fun r => r.getD i Val.null) f.rows).getD r Val.null = (f.rows[r]).getD i .null := by
      intro i
      simp [List.getD_eq_getElem?_getD, List.getElem?_eq_getElem h2]
    simp only [this, ← hrow]
    exact range_getD _ _

theorem listOfDicts_roundtrip (f : Frame) (hwf : f.wf) : rowsOfDicts (listOfDicts f) = f.rows := by
  unfold rowsOfDicts listOfDicts
  rw [List.map_map]
  conv => rhs; rw [← List.map_id f.rows]
  apply List.map_congr_left
  intro r hr
  have := hwf r hr
  simp only [Function.comp_apply, id_eq]
  rw [List.map_snd_zip]
  omega

theorem listOfDicts_keys (f : Frame) (hwf : f.wf) : ∀ d ∈ listOfDicts f, d.map (·.1) = f.names := by
  intro d hd
  simp only [listOfDicts, List.mem_map] at hd
  obtain ⟨r, hr, rfl⟩ := hd
  have := hwf r hr
  rw [List.map_fst_zip]
  omega

theorem dict_defined_iff (f : Frame) : (∃ d, dict f = .ok d) ↔ f.rows.length = 1 := by
  unfold dict
  constructor
  · rintro ⟨d, h⟩
    split at h <;> simp_all
  · intro h
    match hr : f.rows, h with
    | [r], _ => exact ⟨_, rfl⟩

theorem dict_is_row (f : Frame) (r : List Val) (h : f.rows = [r]) : dict f = .ok (f.names.zip r) := by
  simp [dict, h]

/-- `Scalar` of a 1×1 frame is its single cell; `scalar_rejects` covers the frames with another number of names
    or rows, not a frame with one name and one row whose length is not 1 -/
theorem scalar_defined (f : Frame) (n : String) (v : Val) (h : f = ⟨[n], [[v]]⟩) : scalar f = .ok v := by
  subst h; simp [scalar]

theorem scalar_rejects (f : Frame) (h : f.names.length ≠ 1 ∨ f.rows.length ≠ 1) :
    scalar f = .typeError := by
  unfold scalar
  rcases h with h | h
  · simp [h]
  · split
    · rfl
    · split <;> simp_all

example : dictOfLists ⟨["a", "b"], [[.int 1, .null], [.int 2, .str "x"]]⟩ =
    [("a", [.int 1, .int 2]), ("b", [.null, .str "x"])] := by decide

end Pdt.C20
