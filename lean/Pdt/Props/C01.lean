/-
  C01 — Polars and SQL backends return the same table for the same pipeline.

  The model of the SQL compiler (Pdt/Model/Sql.lean) against the reference semantics (Pdt/Model/Spec.lean).  The statement
  for every `ast`, `compile ast = ok r → Sql.run db r = (Spec.run db ast).frame`, is not a theorem: outside the proved
  fragments it is established by execution on generated programs.  Here: where `compile` places the clauses (`compile_*`),
  `limit_compose`, and the headline names `refinement_rowlevel` / `refinement_ordered` of the refinements proved in
  C01Frag / C01Ord.  The summarize, window, join and union fragments: C01Gen, C01Agg, C01Group, C06Sql, C07Sql.
-/
import Pdt.Props.Lemmas.Compile
import Pdt.Props.C15
import Pdt.Props.C01Frag
import Pdt.Props.C01Ord

namespace Pdt.C01
open Pdt Pdt.Spec Pdt.Sql

/-- SQL applies `OFFSET o LIMIT l` once; two stacked `slice_head` calls are folded into
    `LIMIT max(min(l - o2, n), 0) OFFSET o1 + o2` (`compile_ast`'s branch for `slice_head`, with the repair of D3), which
    selects exactly the rows the two calls select one after the other -/
theorem limit_compose {α} (idx : List α) (l o1 n o2 : Int) (h1 : 0 ≤ o1) (h2 : 0 ≤ o2) :
    (idx.drop (o1 + o2).toNat).take (max (min (l - o2) n) 0).toNat =
      (((idx.drop o1.toNat).take l.toNat).drop o2.toNat).take n.toNat := by
  rw [C15.take_drop_chain]
  have e1 : (o1 + o2).toNat = o1.toNat + o2.toNat := by omega
  have e2 : (max (min (l - o2) n) 0).toNat = min n.toNat (l.toNat - o2.toNat) := by omega
  rw [e1, e2]

theorem compile_slice_on_limit (i : NodeId) (c : Ast) (n off : Int) (needed needed' : Needed) (r : Compiled) (l : Int)
    (hc : compile c needed = .ok (r, needed')) (hl : r.query.limit = some l) :
    compile (.sliceHead i c n off) needed =
      .ok ({ r with query := { r.query with limit := some (max (min (l - off) n) 0), offset := some ((r.query.offset.getD 0) + off) } }, needed') := by
  rw [compile_step_ok (nd := .sliceHead i c n off) rfl rfl hc, step, hl]; rfl

theorem compile_slice_first (i : NodeId) (c : Ast) (n off : Int) (needed needed' : Needed) (r : Compiled)
    (hc : compile c needed = .ok (r, needed')) (hl : r.query.limit = none) :
    compile (.sliceHead i c n off) needed =
      .ok ({ r with query := { r.query with limit := some n, offset := some off } }, needed') := by
  rw [compile_step_ok (nd := .sliceHead i c n off) rfl rfl hc, step, hl]; rfl

/-- a `filter` goes to WHERE while the query has no GROUP BY, to HAVING once it has one (after an ungrouped `summarize` it
    still goes to WHERE) -/
theorem compile_filter_placement (i : NodeId) (c : Ast) (preds : List Expr) (needed : Needed) (r : Compiled) (n2 : Needed)
    (hc : compile c ((uidsOfVerb (.filter i c preds)).foldl Needed.incr needed) = .ok (r, n2)) :
    ∃ r' n', compile (.filter i c preds) needed = .ok (r', n') ∧
      (r.query.groupBy = [] → r'.query.where_ = r.query.where_ ++ preds ∧ r'.query.having = r.query.having) ∧
      (r.query.groupBy ≠ [] → r'.query.having = r.query.having ++ preds ∧ r'.query.where_ = r.query.where_) := by
  refine ⟨_, _, compile_step_ok rfl rfl hc, ?_, ?_⟩
  · intro h; simp [step, h]
  · intro h
    have : r.query.groupBy.isEmpty = false := by cases hg : r.query.groupBy <;> simp_all
    simp [step, this]

/-- a later `arrange` is prepended to ORDER BY: it takes priority, the earlier keys break ties -/
theorem compile_arrange_prepends (i : NodeId) (c : Ast) (ords : List Ord) (needed : Needed) (r : Compiled) (n2 : Needed)
    (hc : compile c ((uidsOfVerb (.arrange i c ords)).foldl Needed.incr needed) = .ok (r, n2)) :
    ∃ r' n', compile (.arrange i c ords) needed = .ok (r', n') ∧ r'.query.orderBy = ords ++ r.query.orderBy :=
  ⟨_, _, compile_step_ok rfl rfl hc, rfl⟩

/-- `summarize` turns the non-constant columns of the grouping state into GROUP BY and clears the grouping state and the order -/
theorem compile_summarize_shape (i : NodeId) (c : Ast) (names : List String) (vals : List Expr) (uuids : List Uid)
    (metas : List (Dtype × Ftype)) (needed : Needed) (r : Compiled) (n2 : Needed)
    (hc : compile c ((uidsOfVerb (.summarize i c names vals uuids metas)).foldl Needed.incr needed) = .ok (r, n2)) :
    ∃ r' n', compile (.summarize i c names vals uuids metas) needed = .ok (r', n') ∧
      r'.query.orderBy = [] ∧ r'.query.partitionBy = [] ∧
      r'.query.groupBy = r.query.groupBy ++ (r.query.partitionBy.filter (fun p => !p.2)).map (·.1) :=
  ⟨_, _, compile_step_ok rfl rfl hc, rfl, rfl, rfl⟩

/-- a subquery marker materialises the query so far as the FROM relation of a fresh SELECT -/
theorem compile_marker_fresh (i : NodeId) (c : Ast) (needed : Needed) (r : Compiled) (n2 : Needed)
    (hc : compile c needed = .ok (r, n2)) :
    ∃ r' n', compile (.subqueryMarker i c) needed = .ok (r', n') ∧
      r'.query.where_ = [] ∧ r'.query.having = [] ∧ r'.query.groupBy = [] ∧ r'.query.orderBy = [] ∧
      r'.query.limit = none ∧ r'.query.offset = none ∧ (∃ q d o, r'.src = .subquery r.src q d o) :=
  ⟨_, _, by simp only [compile, hc, bind, Except.bind, pure, Except.pure]; rfl, rfl, rfl, rfl, rfl, rfl, rfl, ⟨_, _, _, rfl⟩⟩

/-- **C01 on the row-level fragment.**  For every pipeline built from a source table by `select`, `rename`, `filter` and
    `mutate` with element-wise expressions (any length and nesting; computed columns used by later verbs, overwritten and
    hidden columns), every database and every `needed_cols` state: the SQL compiler succeeds and the SELECT it builds
    evaluates to exactly the frame (names, order, rows in order) of the reference semantics.  The induction `frag_refines`
    carries `C01.Inv`; it rests on `Sql.inline_eval` (inlining a definition = reading the computed column) and
    `Spec.evalUnits_ewise` (column-at-a-time = row-at-a-time for element-wise expressions). -/
theorem refinement_rowlevel {ast : Ast} {sc : List Uid} (h : Frag ast sc) (db : DB) (needed : Needed) :
    ∃ r n', compile ast needed = .ok (r, n') ∧ Sql.run db r = (Spec.run db ast).frame :=
  sql_refines_spec_rowlevel h db needed

/-- … and that SELECT has no GROUP BY, HAVING, ORDER BY or LIMIT -/
theorem rowlevel_single_select {ast : Ast} {sc : List Uid} (h : Frag ast sc) (db : DB) (needed : Needed) :
    ∃ r n', compile ast needed = .ok (r, n') ∧ r.query.groupBy = [] ∧ r.query.having = [] ∧ r.query.orderBy = [] ∧
      r.query.limit = none := by
  obtain ⟨r, n', hc, inv⟩ := frag_refines h db needed
  exact ⟨r, n', hc, inv.hg, inv.hh, inv.ho, inv.hl⟩

/-- **C01 with order and limit.**  A base pipeline with the row-level invariant (`Refines`), optionally one `arrange`
    (element-wise keys, any descending / nulls_first / nulls_last markers), then `select` / `rename` / element-wise `mutate`,
    optionally a `slice_head(n, offset)` and again such verbs: the SELECT with ORDER BY … LIMIT … OFFSET evaluates to the frame
    of the reference semantics with the rows *in the same sequence* (both sides stably sort the same key table; C01Ord.lean). -/
theorem refinement_ordered {ast : Ast} {sc : List Uid} {lim : Bool} (h : OFrag ast sc lim) (db : DB) (needed : Needed) :
    ∃ r n', compile ast needed = .ok (r, n') ∧ Sql.run db r = (Spec.run db ast).frame :=
  sql_refines_spec_ordered h db needed

end Pdt.C01
