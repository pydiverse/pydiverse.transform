/-
  C04 — summarize and aggregate functions: one row per group, nulls ignored.
-/
import Pdt.Model.Spec
import Pdt.Props.Lemmas.Partition
import Pdt.Props.Lemmas.Lists
import Pdt.Props.Lemmas.Run

namespace Pdt.C04
open Pdt Pdt.Spec Pdt.Ops

/-! ### aggregates ignore nulls -/

def nonNull (vals : List Val) : List Val := vals.filter (fun v => !v.isNull)

theorem agg_ignores_nulls (op : String) (vals : List Val) : agg op vals = agg op (nonNull vals) := by
  unfold agg nonNull
  simp [List.filter_filter]

/-- `sum/mean/min/max/any/all` of a group without non-null input is null -/
theorem agg_empty_is_null (op : String) (vals : List Val) (hop : op ≠ "count") (h : nonNull vals = []) :
    agg op vals = .null := by
  unfold agg
  unfold nonNull at h
  -- the discharger of `simp` takes `hop` from the context to select the arm of the match that is not `"count"`
  simp only [h]

/-- `count(col)` counts the non-null values -/
theorem count_counts_non_null (vals : List Val) : agg "count" vals = .int (nonNull vals).length := by
  simp [agg, nonNull]

theorem count_all_null (vals : List Val) (h : ∀ v ∈ vals, v = .null) : agg "count" vals = .int 0 := by
  rw [count_counts_non_null]
  have : nonNull vals = [] := by
    unfold nonNull
    rw [List.filter_eq_nil_iff]
    intro v hv
    rw [h v hv]; simp [Val.isNull]
  simp [this]

/-- `count()` is `count_star`: the number of rows of the unit, 0 for an empty one -/
theorem count_star_counts_rows (units : List Unit') (part : Option (List Expr)) (arr : List (Expr × Bool × Option Bool))
    (h : isPlainAgg "count_star" part = true) :
    evalUnits units (.fn "count_star" [] part arr) = units.map (fun u => Val.int u.length) := by
  have hdecl : (opFtype "count_star" == Ftype.elementWise) = false := by decide +kernel
  simp [evalUnits, hdecl, h]

example : agg "sum" [.int 3, .null, .int 4] = .int 7 ∧ agg "max" [.null, .int 2, .int 9, .null] = .int 9 ∧
    agg "min" [.str "b", .null, .str "a"] = .str "a" ∧ agg "any" [.null, .bool false] = .bool false ∧
    agg "all" [.bool true, .null] = .bool true ∧ agg "sum" [.null, .null] = .null ∧ agg "count" [.null] = .int 0 := by
  decide +kernel

theorem filter_kwarg_pairs (op : String) (zs : List (Val × Val)) :
    agg op (zs.map (fun cv => if cv.1 == .bool true then cv.2 else .null)) =
    agg op ((zs.filter (fun cv => cv.1 == .bool true)).map (·.2)) := by
  rw [agg_ignores_nulls, agg_ignores_nulls (vals := (zs.filter _).map _)]
  congr 1
  unfold nonNull
  induction zs with
  | nil => rfl
  | cons cv zs ih =>
    simp only [List.map_cons, List.filter_cons]
    by_cases hc : (cv.1 == Val.bool true) = true
    · simp only [hc, ↓reduceIte, List.map_cons, List.filter_cons]
      rw [ih]
    · simp only [hc, Bool.false_eq_true, ↓reduceIte, Val.isNull, Bool.not_true]
      exact ih

/-- the `ColFn.__init__` rewrite `agg(case c then x)` aggregates exactly the rows where `c` is true:
    for rows where the condition is not true the case expression is null, and nulls are ignored -/
theorem filter_kwarg (op : String) (conds vals : List Val) (hlen : conds.length = vals.length) :
    agg op ((conds.zip vals).map (fun cv => if cv.1 == .bool true then cv.2 else .null)) =
    agg op (((conds.zip vals).filter (fun cv => cv.1 == .bool true)).map (·.2)) :=
  filter_kwarg_pairs op _

/-! ### `summarize`: number of rows, visible columns, a `filter` behind it -/

theorem partitionIdx_step_keys (acc : List (List Val × List Nat)) (ik : Nat × List Val) :
    let step (acc : List (List Val × List Nat)) (ik : Nat × List Val) :=
      if acc.any (·.1 == ik.2) then acc.map (fun g => if g.1 == ik.2 then (g.1, g.2 ++ [ik.1]) else g)
      else acc ++ [(ik.2, [ik.1])]
    (step acc ik).map (·.1) = if acc.any (·.1 == ik.2) then acc.map (·.1) else acc.map (·.1) ++ [ik.2] :=
  pstep_keys acc ik

/-- without grouping, `summarize` returns exactly one row — also for an empty input -/
theorem ungrouped_one_row (db : DB) (i : NodeId) (c : Ast) (names : List String) (vals : List Expr) (uuids : List Uid)
    (metas : List (Dtype × Ftype)) (h : (run db c).group = []) :
    (run db (.summarize i c names vals uuids metas)).rows.length = 1 := by
  rw [run_summarize, List.length_map, List.length_range, summarizeUnits, h]
  rfl

/-- the result shows the visible grouping columns (minus overwritten names) followed by the aggregates -/
theorem summarize_visible (db : DB) (i : NodeId) (c : Ast) (names : List String) (vals : List Expr) (uuids : List Uid)
    (metas : List (Dtype × Ftype)) :
    (run db (.summarize i c names vals uuids metas)).visible =
      ((run db c).group.filterMap (fun u => (run db c).visible.find? (·.2 == u))).filter (fun e => !names.contains e.1) ++ names.zip uuids ∧
    (run db (.summarize i c names vals uuids metas)).group = [] :=
  ⟨rfl, rfl⟩

/-- a `filter` placed after `summarize` acts on the aggregated rows -/
theorem filter_after_summarize (db : DB) (i j : NodeId) (c : Ast) (names : List String) (vals : List Expr) (uuids : List Uid)
    (metas : List (Dtype × Ftype)) (preds : List Expr) :
    (run db (.filter j (.summarize i c names vals uuids metas) preds)).rows =
      filterRows (run db (.summarize i c names vals uuids metas)).rows preds :=
  rfl

/-! ### exactly one group per distinct combination of grouping values -/

def keyOf (group : List Uid) (r : Row) : List Val := group.map r.get

/-- **grouping in closed form**: one group per distinct key tuple, in order of first appearance, holding the rows that
    carry it, in order -/
theorem groupsOf_eq_filter (rows : List Row) (keys : List Uid) :
    groupsOf rows keys = (rows.map (keyOf keys)).eraseDups.map (fun k => rows.filter (fun r => keyOf keys r == k)) :=
  partitionIdx_map_getD rows [] (keyOf keys)

/-- every input row belongs to exactly one group -/
theorem groups_cover_rows (rows : List Row) (keys : List Uid) : (groupsOf rows keys).flatten.Perm rows := by
  rw [groupsOf_eq_filter, ← List.flatMap_def]
  exact flatMap_filter_perm (keyOf keys) (nodup_eraseDups _) rows (fun r hr => List.mem_eraseDups.2 (List.mem_map_of_mem hr))

theorem group_rows_share_key (rows : List Row) (keys : List Uid) (unit : Unit') (hu : unit ∈ groupsOf rows keys)
    (r r' : Row) (hr : r ∈ unit) (hr' : r' ∈ unit) : keyOf keys r = keyOf keys r' := by
  rw [groupsOf_eq_filter] at hu
  obtain ⟨k, _, rfl⟩ := List.mem_map.1 hu
  rw [beq_iff_eq.1 (List.mem_filter.1 hr).2, beq_iff_eq.1 (List.mem_filter.1 hr').2]

/-- different groups have different grouping values, null being a value of its own; a combination has a
    group exactly when some input row carries it; there are as many groups as distinct combinations.  With
    `grouped_rows`: `summarize` returns one row per distinct combination present in its input -/
theorem one_group_per_key (rows : List Row) (keys : List Uid) :
    ((partitionGroups (rows.map (keyOf keys))).map (·.1)).Nodup ∧
    (∀ k, k ∈ (partitionGroups (rows.map (keyOf keys))).map (·.1) ↔ ∃ r ∈ rows, keyOf keys r = k) ∧
    (groupsOf rows keys).length = ((rows.map (keyOf keys)).eraseDups).length := by
  refine ⟨partition_keys_nodup _, ?_, by rw [groupsOf_eq_filter, List.length_map]⟩
  intro k
  rw [partition_key_present]
  simp [List.mem_map]

/-- grouped `summarize`: one output row per group, no group empty -/
theorem grouped_rows (db : DB) (i : NodeId) (c : Ast) (names : List String) (vals : List Expr) (uuids : List Uid)
    (metas : List (Dtype × Ftype)) (h : (run db c).group ≠ []) :
    (run db (.summarize i c names vals uuids metas)).rows.length = (groupsOf (run db c).rows (run db c).group).length ∧
    ∀ u ∈ groupsOf (run db c).rows (run db c).group, u ≠ [] := by
  have hne : (run db c).group.isEmpty = false := by cases hg : (run db c).group <;> simp_all
  refine ⟨by rw [run_summarize, List.length_map, List.length_range, summarizeUnits, hne]; rfl, ?_⟩
  intro u hu
  rw [groupsOf_eq_filter] at hu
  obtain ⟨k, hk, rfl⟩ := List.mem_map.1 hu
  obtain ⟨r, hr, rfl⟩ := List.mem_map.1 (List.mem_eraseDups.1 hk)
  exact List.ne_nil_of_mem (List.mem_filter.2 ⟨hr, beq_self_eq_true _⟩)

/-- null is a grouping value of its own -/
example :
    (groupsOf [[(1, .int 1), (2, .int 10)], [(1, .null), (2, .int 20)], [(1, .int 1), (2, .int 30)], [(1, .null), (2, .null)]] [1]).map
      (fun g => g.map (fun r => r.get 2)) = [[.int 10, .int 30], [.int 20, .null]] := by decide +kernel

end Pdt.C04
