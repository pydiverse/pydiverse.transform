/-
  C16 — alias / collect / transfer_col_references re-root a table without changing data
  (front-end half: what the re-rooting verbs do to names, identities and scope).
-/
import Pdt.Model.Verbs
import Pdt.Props.Lemmas.Dict

namespace Pdt.C16
open Pdt Cache

/-- `alias(keep_col_refs=True)` changes only the lineage set: every reference of the origin stays
    valid and denotes the same column -/
theorem alias_keep_refs (c : Cache) (i : NodeId) (ch : Ast) (nm : String) :
    let c' := c.update (.alias i ch none nm)
    c'.nameToUuid = c.nameToUuid ∧ c'.uuidToName = c.uuidToName ∧ c'.cols = c.cols ∧
    c'.partitionBy = c.partitionBy ∧ c'.limit = c.limit ∧ c'.groupBy = c.groupBy ∧ c'.isFiltered = c.isFiltered := by
  simp [Cache.update]

/-- a plain `alias()` cuts the lineage: the result derives from the alias node only … -/
theorem alias_lineage (c : Cache) (i : NodeId) (ch : Ast) (m : List (Uid × Uid)) (nm : String) :
    (c.update (.alias i ch (some m) nm)).derivedFrom = [i] :=
  rfl

/-- … hence, `i` being fresh, the origin and its alias pass the self-join test of `join` -/
theorem alias_self_join_accepted (c : Cache) (i : NodeId) (ch : Ast) (m : List (Uid × Uid)) (nm : String)
    (hfresh : i ∉ c.derivedFrom) :
    (c.derivedFrom.any ((c.update (.alias i ch (some m) nm)).derivedFrom.contains)) = false := by
  rw [alias_lineage]
  rw [List.any_eq_false]
  intro x hx hc
  simp only [List.contains_cons, List.contains_nil, Bool.or_false, beq_iff_eq] at hc
  subst hc
  exact hfresh hx

/-- whereas without alias the same table cannot be joined with itself (`derived_from` intersects) -/
theorem self_join_rejected (c : Cache) (hne : c.derivedFrom ≠ []) :
    (c.derivedFrom.any (c.derivedFrom.contains)) = true := by
  cases hd : c.derivedFrom with
  | nil => exact absurd hd hne
  | cons a t => simp

theorem alias_scope (c : Cache) (i : NodeId) (ch : Ast) (m : List (Uid × Uid)) (nm : String)
    (hnd : (c.cols.map (fun e => mapUidWith m e.1)).Nodup) :
    (c.update (.alias i ch (some m) nm)).cols = c.cols.map (fun e => (mapUidWith m e.1, e.2)) ∧
    (c.update (.alias i ch (some m) nm)).partitionBy = c.partitionBy.map (mapUidWith m) := by
  simp only [Cache.update, and_true]
  rw [dictOf_keys_nodup]
  simpa [List.map_map, Function.comp_def] using hnd

/-- a reference whose UUID is outside the scope of `t` is rejected (`ColumnNotFoundError`), never
    resolved to another column: so a reference of the origin on a plain alias (fresh identities),
    or one to a column `summarize` dropped (`C09.dropped_ref_rejected`) -/
theorem origin_ref_rejected (env : Env) (t : Tbl) (aiw : Bool) (tv name : String) (src : Tbl) (u : Uid)
    (dt : Dtype) (ft : Ftype)
    (hsrc : env.table? tv = some src) (hcol : src.colByName name = .ok (.col u dt ft))
    (hout : t.cache.col? u = none) :
    resolveExpr env t aiw (.tcol tv name) = .error .columnNotFound := by
  simp [resolveExpr, hsrc, hcol, hout]

/-- … while one in scope resolves to exactly that identity, with the dtype the table has for the
    column at that point: a reference may be older than a `union` that made a constant column an
    ordinary one (repair of D85) -/
theorem own_ref_resolves (env : Env) (t : Tbl) (aiw : Bool) (tv name : String) (src : Tbl) (u : Uid)
    (dt : Dtype) (ft : Ftype) (m : ColMeta)
    (hsrc : env.table? tv = some src) (hcol : src.colByName name = .ok (.col u dt ft))
    (hin : t.cache.col? u = some m) :
    resolveExpr env t aiw (.tcol tv name) = .ok (.col u m.dtype ft) := by
  simp [resolveExpr, hsrc, hcol, hin]

end Pdt.C16
