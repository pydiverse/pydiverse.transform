/-
  C08, the needed-columns counter that `compile_ast` threads through the tree (`+1` for every column a verb mentions before
  descending, `-1` afterwards, an entry deleted at 0): what was needed above a pipeline is still in the counter when its
  compilation returns (`NeededMono`), for the eight verbs that only rewrite the compiled record and for joins.
-/
import Pdt.Props.Lemmas.Compile

namespace Pdt.C08
open Pdt Pdt.Sql

/-- the count the counter holds for `u` (first entry) -/
def low (n : Needed) (u : Uid) : Nat := ((n.find? (·.1 == u)).map (·.2)).getD 0

theorem low_cons (e : Uid × Nat) (es : Needed) (u : Uid) : low (e :: es) u = if e.1 = u then e.2 else low es u := by
  simp only [low, List.find?_cons]
  grind

theorem any_of_low (n : Needed) (u : Uid) (h : 1 ≤ low n u) : n.any (·.1 == u) = true := by
  unfold low at h
  cases hf : n.find? (·.1 == u) with
  | none => rw [hf] at h; simp at h
  | some e =>
    have h2 : (e.1 == u) = true := List.find?_some (p := fun x : Uid × Nat => x.1 == u) hf
    exact List.any_eq_true.2 ⟨e, List.mem_of_find?_eq_some hf, h2⟩

theorem low_map (g : Uid × Nat → Uid × Nat) (hg : ∀ e, (g e).1 = e.1) (n : Needed) (u : Uid) :
    low (n.map g) u = ((n.find? (·.1 == u)).map (fun e => (g e).2)).getD 0 := by
  rw [low, List.find?_map, show ((fun (e : Uid × Nat) => e.1 == u) ∘ g) = (fun e => e.1 == u) from funext fun e => by simp [hg]]
  cases n.find? (·.1 == u) <;> rfl

theorem low_incr (n : Needed) (v u : Uid) : low (n.incr v) u = low n u + (if u = v then 1 else 0) := by
  unfold Needed.incr
  split
  · rename_i ha
    rw [low_map _ (fun e => by by_cases h : (e.1 == v) = true <;> simp [h]; exact (beq_iff_eq.1 h).symm), low]
    cases hf : n.find? (·.1 == u) with
    | none =>
      by_cases huv : u = v
      · subst huv; exact absurd (List.find?_isSome.2 (List.any_eq_true.1 ha)) (by simp [hf])
      · simp [huv]
    | some x =>
      have hx : x.1 = u := beq_iff_eq.1 (List.find?_some (p := fun e : Uid × Nat => e.1 == u) hf)
      by_cases huv : u = v <;> simp [hx, huv]
  · rename_i ha
    have hv : n.find? (·.1 == v) = none := List.find?_eq_none.2 (fun x hx hxv => ha (List.any_eq_true.2 ⟨x, hx, hxv⟩))
    rw [low, List.find?_append]
    by_cases huv : u = v
    · subst huv; simp [low, hv]
    · cases hf : n.find? (·.1 == u) <;> simp [low, hf, huv, show (v == u) = false from by simpa using fun h => huv h.symm]

/- `≤`, not `=`: a count of 0 stays 0 (truncated subtraction), and deleting the first entry for `v` at 0 uncovers a second one
   when `n` holds duplicate keys. -/
theorem low_decr : ∀ (n : Needed) (v u : Uid), low n u ≤ low (n.decr v) u + (if u = v then 1 else 0)
  | [], _, _ => by simp [low]
  | e :: es, v, u => by
      have ih := low_decr es v u
      simp only [Needed.decr, List.map_cons, List.filter_cons] at ih ⊢
      grind [low_cons]

theorem low_foldl_incr (u : Uid) : ∀ (L : List Uid) (n : Needed), low (L.foldl Needed.incr n) u = low n u + L.count u
  | [], n => by simp
  | v :: vs, n => by
      rw [List.foldl_cons, low_foldl_incr u vs (n.incr v), low_incr, List.count_cons]
      grind

theorem low_foldl_decr (u : Uid) : ∀ (L : List Uid) (n : Needed), low n u ≤ low (L.foldl Needed.decr n) u + L.count u
  | [], n => by simp
  | v :: vs, n => by
      have h1 := low_foldl_decr u vs (n.decr v)
      have h2 := low_decr n v u
      rw [List.foldl_cons, List.count_cons]
      grind

theorem wrap_mono (L : List Uid) (needed nmid : Needed) (u : Uid) (hchild : low (L.foldl Needed.incr needed) u ≤ low nmid u) :
    low needed u ≤ low (L.foldl Needed.decr nmid) u := by
  have h1 := low_foldl_incr u L needed
  have h2 := low_foldl_decr u L nmid
  omega

theorem step_needed_mono {nd c : Ast} (hs : isStep nd = true) (hc : nd.child? = some c)
    (h : ∀ needed r n', compile c needed = .ok (r, n') → ∀ u, low needed u ≤ low n' u) :
    ∀ needed r n', compile nd needed = .ok (r, n') → ∀ u, low needed u ≤ low n' u := by
  intro needed r n' hcomp u
  obtain ⟨r0, n0, hcc, -, rfl⟩ := (compile_step_iff hs hc).1 hcomp
  exact wrap_mono _ _ _ u (h _ r0 n0 hcc u)

theorem source_needed_mono (i : NodeId) (name : String) (cols : List (String × Uid × Dtype)) (be : Backend) :
    ∀ needed r n', compile (.source i name cols be) needed = .ok (r, n') → ∀ u, low needed u ≤ low n' u := by
  intro needed r n' hc u
  cases compile_source.symm.trans hc
  exact Nat.le_refl _

/-- what `Ready.needed` rests on for the pipeline below a marker (`invO_marker_refines`, C08Sql.lean) -/
def NeededMono (c : Ast) : Prop := ∀ needed r n', compile c needed = .ok (r, n') → ∀ u, low needed u ≤ low n' u

inductive Wrap : Ast → Prop
  | leaf {c} : NeededMono c → Wrap c
  | select {c} (i : NodeId) (cols : List (Uid × ColMeta)) : Wrap c → Wrap (.select i c cols)
  | rename {c} (i : NodeId) (m : List (String × String)) : Wrap c → Wrap (.rename i c m)
  | mutate {c} (i : NodeId) (names : List String) (vals : List Expr) (uuids : List Uid) (metas : List (Dtype × Ftype)) :
      Wrap c → Wrap (.mutate i c names vals uuids metas)
  | filter {c} (i : NodeId) (preds : List Expr) : Wrap c → Wrap (.filter i c preds)
  | arrange {c} (i : NodeId) (ords : List Ord) : Wrap c → Wrap (.arrange i c ords)
  | sliceHead {c} (i : NodeId) (n off : Int) : Wrap c → Wrap (.sliceHead i c n off)
  | groupBy {c} (i : NodeId) (cols : List (Uid × ColMeta)) (add : Bool) : Wrap c → Wrap (.groupBy i c cols add)
  | summarize {c} (i : NodeId) (names : List String) (vals : List Expr) (uuids : List Uid) (metas : List (Dtype × Ftype)) :
      Wrap c → Wrap (.summarize i c names vals uuids metas)

theorem wrap_needed_mono {ast : Ast} (h : Wrap ast) : NeededMono ast := by
  induction h with
  | leaf hm => exact hm
  | select i cols _ ih => exact step_needed_mono rfl rfl ih
  | rename i m _ ih => exact step_needed_mono rfl rfl ih
  | mutate i names vals uuids metas _ ih => exact step_needed_mono rfl rfl ih
  | filter i preds _ ih => exact step_needed_mono rfl rfl ih
  | arrange i ords _ ih => exact step_needed_mono rfl rfl ih
  | sliceHead i n off _ ih => exact step_needed_mono rfl rfl ih
  | groupBy i cols add _ ih => exact step_needed_mono rfl rfl ih
  | summarize i names vals uuids metas _ ih => exact step_needed_mono rfl rfl ih

theorem join_needed_mono (i : NodeId) (c rt : Ast) (on : Expr) (how : How) (hl : NeededMono c) (hr : NeededMono rt) :
    NeededMono (.join i c rt on how) := by
  intro needed r n' hc u
  simp only [compile] at hc
  cases hcl : compile c ((uidsOfVerb (.join i c rt on how)).foldl Needed.incr needed) with
  | error e => rw [hcl] at hc; simp [bind, Except.bind] at hc
  | ok p =>
    rw [hcl] at hc
    simp only [bind, Except.bind] at hc
    cases hcr : compile rt p.2 with
    | error e => rw [hcr] at hc; simp at hc
    | ok q =>
      rw [hcr] at hc
      simp only at hc
      have h1 := hl _ p.1 p.2 hcl u
      have h2 := hr _ q.1 q.2 hcr u
      -- all that is used of the join branch of `compile`: every path that does not fail returns this counter
      have key : n' = (uidsOfVerb (.join i c rt on how)).foldl Needed.decr q.2 := by
        cases how <;> simp only [pure, Except.pure] at hc <;> (repeat' split at hc) <;> simp_all [throw, throwThe, MonadExceptOf.throw]
      rw [key]
      exact wrap_mono _ _ _ u (Nat.le_trans h1 h2)

/-- `build_select` starts the compiler with every selected column of the final table needed once
    (`compile_ast(nd, {col._uuid: 1 for col in final_select})`) -/
def topNeeded (vis : List Uid) : Needed := vis.map (fun u => (u, 1))

theorem top_needed_low : ∀ (vis : List Uid) (u : Uid), u ∈ vis → 1 ≤ low (topNeeded vis) u
  | [], _, h => by simp at h
  | v :: vs, u, h => by
      unfold topNeeded
      rw [List.map_cons, low_cons]
      by_cases hvu : v = u
      · simp [hvu]
      · simp only [hvu, ↓reduceIte]
        rcases List.mem_cons.1 h with h | h
        · exact absurd h.symm hvu
        · exact top_needed_low vs u h

end Pdt.C08
