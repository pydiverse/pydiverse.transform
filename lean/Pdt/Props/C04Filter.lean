/-
  C04, `filter=` with several conditions: `ColFn.__init__` folds the list with `&` (`boolAndAll`) and wraps the
  first argument into `CASE WHEN c1 & c2 & … THEN x END`.  A row takes part in the aggregate exactly when *every*
  condition is true for it (a null or false condition excludes the row).
-/
import Pdt.Model.Verbs
import Pdt.Props.Lemmas.Rows
import Pdt.Props.C04
import Pdt.Props.C03

namespace Pdt.C04
open Pdt Pdt.Spec

theorem foldl_and_true (r : Row) (es : List Expr) (e : Expr) :
    (evalRow r (es.foldl (fun acc x => .fn "bool_and" [acc, x] none []) e) == .bool true) =
      ((evalRow r e == .bool true) && es.all (fun p => evalRow r p == .bool true)) := by
  induction es generalizing e with
  | nil => simp
  | cons x xs ih =>
    rw [List.foldl_cons, ih]
    have : evalRow r (.fn "bool_and" [e, x] none []) = Ops.andV (evalRow r e) (evalRow r x) := (C03.ew_dispatch _ _).1
    rw [this, C03.andV_true, List.all_cons, Bool.and_assoc]

/-- **`filter=[c1, …, cn]` is the conjunction**: the condition that `ColFn.__init__` builds from the list holds for
    a row exactly when `filter(c1, …, cn)` would keep the row -/
theorem filter_list_is_conjunction (r : Row) (conds : List Expr) (c : Expr) (h : boolAndAll conds = some c) :
    (evalRow r c == .bool true) = keeps conds r := by
  cases conds with
  | nil => simp [boolAndAll] at h
  | cons e es =>
    simp only [boolAndAll, Option.some.injEq] at h
    subst h
    rw [foldl_and_true, keeps_cons]
    rfl

/-- one condition that is not true excludes the row: the list is not read disjunctively -/
theorem filter_list_excludes (r : Row) (conds : List Expr) (c p : Expr) (h : boolAndAll conds = some c)
    (hp : p ∈ conds) (hf : (evalRow r p == .bool true) = false) : (evalRow r c == .bool true) = false := by
  rw [filter_list_is_conjunction r conds c h, keeps, List.all_eq_false]
  exact ⟨p, hp, by rw [hf]; decide⟩

/-- the value handed to the aggregate for one row: the argument where all conditions hold, null otherwise
    (nulls are ignored by every aggregate: `agg_ignores_nulls`, `filter_kwarg`) -/
theorem filter_list_case_value (r : Row) (conds : List Expr) (c a : Expr) (h : boolAndAll conds = some c) :
    evalRow r (.case [(c, a)] none) = if keeps conds r then evalRow r a else .null := by
  have hc := filter_list_is_conjunction r conds c h
  simp only [evalRow, evalRowOpt, evalRowConds, evalRowVals]
  rw [← hc]
  unfold pickRow
  simp [pickRow]

example : boolAndAll [.col 1 .bool .elementWise, .col 2 .bool .elementWise] =
    some (.fn "bool_and" [.col 1 .bool .elementWise, .col 2 .bool .elementWise] none []) := rfl

end Pdt.C04
