/-
  C14 — ill-formed pipelines are rejected when built, with the documented error
  (front-end half: the rejection rules of the expression layer and of the verb checks, stated
  over the model of tree/col_expr.py and pipe/verbs.py).
-/
import Pdt.Model.Verbs

namespace Pdt.C14
open Pdt

theorem no_overload_is_DataTypeError (op : String) (decl : OpDecl) (args : List Expr)
    (part : Option (List Expr)) (arr : List (Expr × Bool × Option Bool))
    (argTys partTys arrTys : List Dtype)
    (ha : typeOfList args = .ok argTys) (hp : typeOfOptList part = .ok partTys) (hr : typeOfOrdList arr = .ok arrTys)
    (hop : findOp op = some decl) (hres : resolve decl argTys = .noMatch) :
    typeOf (.fn op args part arr) = .error .dataType := by
  simp [typeOf, ha, hp, hr, hop, hres]

/-- positional arguments only: nothing is stated for an error in `partition_by` / `arrange` -/
theorem arg_error_propagates (op : String) (args : List Expr) (part : Option (List Expr))
    (arr : List (Expr × Bool × Option Bool)) (e : Err) (ha : typeOfList args = .error e) :
    typeOf (.fn op args part arr) = .error e := by
  simp [typeOf, ha]

theorem list_error_propagates (x : Expr) (xs : List Expr) (e : Err) :
    (typeOf x = .error e → typeOfList (x :: xs) = .error e) ∧
    (∀ t, typeOf x = .ok t → typeOfList xs = .error e → typeOfList (x :: xs) = .error e) := by
  constructor
  · intro h; simp [typeOfList, h]
  · intro t ht hx; simp [typeOfList, ht, hx]

theorem case_condition_must_be_bool (bs : List (Expr × Expr)) (d : Option Expr)
    (tys : List (Dtype × Dtype)) (dty : Option Dtype)
    (hb : typeOfBranches bs = .ok tys) (hd : typeOfOpt d = .ok dty)
    (hbad : tys.any (fun ct => ct.1.withoutConst != .bool) = true) :
    typeOf (.case bs d) = .error .dataType := by
  simp [typeOf, hb, hd, hbad]

/-- an aggregate / window function with another one anywhere below it (arguments *or* context
    arguments) is a `FunctionTypeError` -/
theorem nested_agg_window_rejected (aiw : Bool) (op : String) (args : List Expr) (part : Option (List Expr))
    (arr : List (Expr × Bool × Option Bool)) (fts : List Ftype)
    (hargs : ftypeOfList aiw args = .ok fts)
    (hactual : (if opFtype op == .aggregate && aiw then Ftype.window else opFtype op) ≠ .elementWise)
    (hnest : hasNestedAggWindow (.fn op args part arr) = true) :
    ftypeOf aiw (.fn op args part arr) = .error .functionType := by
  simp only [ftypeOf, hargs]
  rw [if_neg (by simpa using hactual), if_pos hnest]

/-- ordering markers are legal only at the top of an `arrange` argument (`peelMarkers` takes them
    off there): as the root of a verb argument they are a `TypeError` … -/
theorem marker_root_rejected (env : Env) (t : Tbl) (aiw : Bool) (op : String) (args : List SExpr)
    (p : Option (List SExpr)) (a : List (SExpr × Option Bool × Option Bool)) (f : List SExpr)
    (hm : isMarkerOp op = true) :
    preprocessArg env t aiw (.fn op args p a f) = .error .type := by
  simp [preprocessArg, hm]

/-- … and so is every marker `resolveExpr` comes to -/
theorem marker_inside_rejected (env : Env) (t : Tbl) (aiw : Bool) (op : String) (args : List SExpr)
    (p : Option (List SExpr)) (a : List (SExpr × Option Bool × Option Bool)) (f : List SExpr)
    (hm : isMarkerOp op = true) :
    resolveExpr env t aiw (.fn op args p a f) = .error .type := by
  simp [resolveExpr, hm]

/-- one level, positional arguments only (branches and casts below): a marker, an unknown column or
    a type error in `args` rejects the enclosing call; the induction over the depth is not stated -/
theorem resolve_arg_error_propagates (env : Env) (t : Tbl) (aiw : Bool) (op : String) (args : List SExpr)
    (p : Option (List SExpr)) (a : List (SExpr × Option Bool × Option Bool)) (f : List SExpr) (e : Err)
    (hm : isMarkerOp op = false) (ha : resolveList env t aiw args = .error e) :
    resolveExpr env t aiw (.fn op args p a f) = .error e := by
  simp [resolveExpr, hm, ha]

theorem resolve_case_error_propagates (env : Env) (t : Tbl) (aiw : Bool) (bs : List (SExpr × SExpr))
    (d : Option SExpr) (e : Err) (hb : resolveBranches env t aiw bs = .error e) :
    resolveExpr env t aiw (.case bs d) = .error e := by
  simp [resolveExpr, hb]

theorem resolve_cast_error_propagates (env : Env) (t : Tbl) (aiw : Bool) (x : SExpr) (ty : Dtype) (e : Err)
    (hx : resolveExpr env t aiw x = .error e) :
    resolveExpr env t aiw (.cast x ty) = .error e := by
  simp [resolveExpr, hx]

theorem summarize_bare_column_rejected (part : List Uid) (fuel : Nat) (u : Uid) (dt : Dtype) (ft : Ftype)
    (h : u ∉ part) :
    checkSummarize part (fuel + 1) false (.col u dt ft) = .error .functionType := by
  simp [checkSummarize, h]

theorem summarize_window_rejected (part : List Uid) (fuel : Nat) (above : Bool) (op : String) (args : List Expr)
    (p : Option (List Expr)) (a : List (Expr × Bool × Option Bool)) (h : opFtype op = .window) :
    checkSummarize part (fuel + 1) above (.fn op args p a) = .error .functionType := by
  simp [checkSummarize, h]

/-- `above`: the position is below an aggregate -/
theorem summarize_group_column_ok (part : List Uid) (fuel : Nat) (u : Uid) (dt : Dtype) (ft : Ftype) (above : Bool)
    (h : u ∈ part ∨ above = true) :
    checkSummarize part (fuel + 1) above (.col u dt ft) = .ok () := by
  rcases h with h | h <;> simp [checkSummarize, h]

/-- one instance of `Order.from_col_expr`: the outer marker of each kind wins -/
theorem peel_outermost_wins :
    peelMarkers (.fn "descending" [.fn "ascending" [.fn "nulls_last" [.fn "nulls_first" [.cname "x"] none [] []] none [] []] none [] []] none [] [])
      = (.cname "x", some true, some true) := by
  simp [peelMarkers, isMarkerOp, markerOps]

example : opFtype "row_number" = .window ∧ opFtype "sum" = .aggregate ∧ isMarkerOp "nulls_last" = true := by decide +kernel

end Pdt.C14
