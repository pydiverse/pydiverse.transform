/-
  C06 — join: exact row combinations, collision-free names, all columns reachable.
-/
import Pdt.Props.Lemmas.Rows
import Pdt.Model.Verbs
import Pdt.Props.Lemmas.Dict
import Pdt.Props.C03

namespace Pdt.C06
open Pdt Pdt.Spec Pdt.Ops

/-! ### rows -/

def pairsOf (l r : List Row) : List (Row × Row) := l.flatMap (fun a => r.map (fun b => (a, b)))

def matchedPairs (l r : List Row) (on : Expr) : List (Row × Row) :=
  (pairsOf l r).filter (fun p => keeps [on] (p.1 ++ p.2))

theorem matched_eq (l r : List Row) (on : Expr) (h : isEwise on = true) :
    (((pairsOf l r).zip (matchRows ((pairsOf l r).map (fun p => p.1 ++ p.2)) [on])).filter (·.2)).map (·.1) =
      matchedPairs l r on := by
  rw [matchRows_ewise _ [on] ((isEwiseList_singleton on).trans h), List.map_map]
  exact zip_filter_map (pairsOf l r) _

/-- inner join: exactly the combinations of a left and a right row that satisfy `on` -/
theorem inner_join_rows (db : DB) (i : NodeId) (c r : Ast) (on : Expr) (h : isEwise on = true) :
    (run db (.join i c r on .inner)).rows =
      (matchedPairs (run db c).rows (run db r).rows on).map (fun p => p.1 ++ p.2) := by
  rw [← matched_eq _ _ on h]
  rfl

theorem mem_pairsOf (l r : List Row) (a b : Row) : (a, b) ∈ pairsOf l r ↔ a ∈ l ∧ b ∈ r := by
  simp only [pairsOf, List.mem_flatMap, List.mem_map, Prod.mk.injEq]
  constructor
  · rintro ⟨x, hx, y, hy, rfl, rfl⟩; exact ⟨hx, hy⟩
  · rintro ⟨ha, hb⟩; exact ⟨a, ha, b, hb, rfl, rfl⟩

theorem inner_join_mem (db : DB) (i : NodeId) (c r : Ast) (on : Expr) (h : isEwise on = true) (row : Row) :
    row ∈ (run db (.join i c r on .inner)).rows ↔
      ∃ a ∈ (run db c).rows, ∃ b ∈ (run db r).rows, row = a ++ b ∧ evalRow (a ++ b) on = .bool true := by
  rw [inner_join_rows db i c r on h]
  simp only [matchedPairs, List.mem_map, List.mem_filter, keeps_singleton, beq_iff_eq]
  constructor
  · rintro ⟨⟨a, b⟩, ⟨hp, hk⟩, rfl⟩
    exact ⟨a, ((mem_pairsOf _ _ a b).1 hp).1, b, ((mem_pairsOf _ _ a b).1 hp).2, rfl, hk⟩
  · rintro ⟨a, ha, b, hb, rfl, hk⟩
    exact ⟨(a, b), ⟨(mem_pairsOf _ _ a b).2 ⟨ha, hb⟩, hk⟩, rfl⟩

/-- one result row per matching entry of the pair list (`pairsOf` pairs positions, not distinct values) -/
theorem inner_join_count (db : DB) (i : NodeId) (c r : Ast) (on : Expr) (h : isEwise on = true) :
    (run db (.join i c r on .inner)).rows.length =
      ((pairsOf (run db c).rows (run db r).rows).filter (fun p => keeps [on] (p.1 ++ p.2))).length := by
  rw [inner_join_rows db i c r on h]; simp [matchedPairs]

/-- null never equals anything: an equality predicate with a null operand matches no row -/
theorem null_key_never_matches (row : Row) (a b : Expr) (part : Option (List Expr)) (arr : List (Expr × Bool × Option Bool))
    (h : evalRow row a = .null ∨ evalRow row b = .null) :
    keeps [.fn "equal" [a, b] part arr] row = false := by
  simp only [keeps_singleton, evalRow, evalRowList]
  rw [show ew "equal" [evalRow row a, evalRow row b] = eqV (evalRow row a) (evalRow row b) from rfl]
  rcases h with h | h <;> rw [h]
  · rw [(eq_null (evalRow row b)).1]; decide
  · rw [(eq_null (evalRow row a)).2]; decide
where
  eq_null (b : Val) : eqV .null b = .null ∧ eqV b .null = .null := by
    cases b <;> simp [eqV, cmpOp, Val.isNull]

/-- … also as the left operand of a conjunction -/
theorem null_key_never_matches_and (row : Row) (p q : Expr) (h : keeps [p] row = false) :
    keeps [.fn "bool_and" [p, q] none []] row = false := by
  rw [keeps_singleton] at h ⊢
  rw [show evalRow row (.fn "bool_and" [p, q] none []) = andV (evalRow row p) (evalRow row q) from (C03.ew_dispatch _ _).1,
    C03.andV_true, h, Bool.false_and]

/-- `how="left"`: the inner result, then every unmatched left row padded with nulls -/
theorem left_join_rows (db : DB) (i : NodeId) (c r : Ast) (on : Expr) (h : isEwise on = true) :
    (run db (.join i c r on .left)).rows =
      (matchedPairs (run db c).rows (run db r).rows on).map (fun p => p.1 ++ p.2) ++
      ((run db c).rows.filter (fun l => !(matchedPairs (run db c).rows (run db r).rows on).any (fun p => p.1 == l))).map
        (fun l => l ++ nullRow (((run db r).rows.headD []).map (·.1))) := by
  rw [← matched_eq _ _ on h]
  rfl

/-- `how="full"`: additionally every unmatched right row, padded on the left -/
theorem full_join_rows (db : DB) (i : NodeId) (c r : Ast) (on : Expr) (h : isEwise on = true) :
    (run db (.join i c r on .full)).rows =
      (matchedPairs (run db c).rows (run db r).rows on).map (fun p => p.1 ++ p.2) ++
      ((run db c).rows.filter (fun l => !(matchedPairs (run db c).rows (run db r).rows on).any (fun p => p.1 == l))).map
        (fun l => l ++ nullRow (((run db r).rows.headD []).map (·.1))) ++
      ((run db r).rows.filter (fun rr => !(matchedPairs (run db c).rows (run db r).rows on).any (fun p => p.2 == rr))).map
        (fun rr => nullRow (((run db c).rows.headD []).map (·.1)) ++ rr) := by
  rw [← matched_eq _ _ on h]
  rfl

/-- every left row appears in a left join: matched (at least once) or padded -/
theorem left_join_keeps_left (db : DB) (i : NodeId) (c r : Ast) (on : Expr) (h : isEwise on = true) (l : Row)
    (hl : l ∈ (run db c).rows) :
    ∃ row ∈ (run db (.join i c r on .left)).rows, ∃ ext, row = l ++ ext := by
  rw [left_join_rows db i c r on h]
  by_cases hm : (matchedPairs (run db c).rows (run db r).rows on).any (fun p => p.1 == l) = true
  · obtain ⟨p, hp, hpl⟩ := List.any_eq_true.1 hm
    refine ⟨p.1 ++ p.2, List.mem_append_left _ (List.mem_map.2 ⟨p, hp, rfl⟩), p.2, ?_⟩
    rw [beq_iff_eq] at hpl; rw [hpl]
  · refine ⟨_, List.mem_append_right _ (List.mem_map.2 ⟨l, List.mem_filter.2 ⟨hl, by rw [Bool.not_eq_true']; exact Bool.eq_false_iff.2 hm⟩, rfl⟩), _, rfl⟩

/-- `cross_join` (`on` = literal true): the full product -/
theorem cross_join_rows (db : DB) (i : NodeId) (c r : Ast) :
    (run db (.join i c r (.lit (.bool true) .bool) .inner)).rows =
      (pairsOf (run db c).rows (run db r).rows).map (fun p => p.1 ++ p.2) := by
  rw [inner_join_rows db i c r _ (by simp [isEwise])]
  congr 1
  simp [matchedPairs, keeps_singleton, evalRow]

theorem cross_join_count (db : DB) (i : NodeId) (c r : Ast) :
    (run db (.join i c r (.lit (.bool true) .bool) .inner)).rows.length = (run db c).rows.length * (run db r).rows.length := by
  rw [cross_join_rows]
  simp only [List.length_map, pairsOf, List.length_flatMap]
  generalize (run db c).rows = l
  induction l with
  | nil => simp
  | cons a as ih => simp [ih, Nat.add_mul, Nat.add_comm]

/-- visible columns: the left ones, then the right ones (already renamed by the verb front end) -/
theorem join_visible (db : DB) (i : NodeId) (c r : Ast) (on : Expr) (how : How) :
    (run db (.join i c r on how)).visible = (run db c).visible ++ (run db r).visible ∧
    (run db (.join i c r on how)).group = [] :=
  ⟨rfl, rfl⟩

/-! ### names: the suffix rule -/

theorem suffixed_inj (suffix : String) (cnt : Nat) (a b : String) (h : suffixed suffix cnt a = suffixed suffix cnt b) : a = b := by
  unfold suffixed at h
  rw [String.append_assoc, String.append_assoc] at h
  exact (String.append_left_inj _).1 h

/-- the counter loop ends on a counter without collision, unless it runs out of fuel (the hypothesis) -/
theorem counter_no_collision (leftNames rightNames : List String) (suffix : String) :
    ∀ (f cnt : Nat), suffixCounterGo leftNames suffix rightNames f cnt < cnt + f →
      rightNames.any (fun n => leftNames.contains (suffixed suffix (suffixCounterGo leftNames suffix rightNames f cnt) n)) = false
  | 0, cnt, h => by simp [suffixCounterGo] at h
  | f + 1, cnt, h => by
      unfold suffixCounterGo at h ⊢
      split
      · rename_i hc
        simp only [hc, ↓reduceIte] at h
        exact counter_no_collision leftNames rightNames suffix f (cnt + 1) (by omega)
      · rename_i hc
        simpa using hc

/-- what a right column is called after the join -/
def renameBy (nm : List (String × String)) (n : String) : String :=
  match nm.find? (·.1 == n) with | some (_, nn) => nn | none => n

theorem nodup_map_rename {R T : List String} {f : String → String} (hR : R.Nodup) (hf : ∀ a b, f a = f b → a = b)
    (hclash : ∀ a ∈ T, ∀ b ∈ R, b ∉ T → f a ≠ b) : (R.map (fun n => if n ∈ T then f n else n)).Nodup := by
  rw [List.Nodup, List.pairwise_map]
  refine hR.imp_of_mem (fun {a b} ha hb hne hab => hne ?_)
  by_cases hta : a ∈ T <;> by_cases htb : b ∈ T <;> simp only [hta, htb, if_true, if_false] at hab
  · exact hf a b hab
  · exact absurd hab (hclash a hta b hb htb)
  · exact absurd hab.symm (hclash b htb a ha hta)
  · exact hab

/-- automatic suffixing: no right name (renamed or untouched) equals a left name, and the right names stay
    pairwise distinct.  `hfuel`: the loop of `suffixCounter` (Model/Verbs.lean) stopped before its fuel `L*R+1` ran out -/
theorem auto_suffix_names (leftNames rightNames rightOnNames : List String) (suffix0 : String) (nm : List (String × String))
    (hr : rightNames.Nodup)
    (hfuel : suffixCounter leftNames suffix0 rightNames < leftNames.length * rightNames.length + 1)
    (h : autoSuffixMap leftNames rightNames rightOnNames suffix0 = .ok nm) :
    (∀ n ∈ rightNames, renameBy nm n ∉ leftNames) ∧ (rightNames.map (renameBy nm)).Nodup := by
  have hnc : rightNames.any (fun n => leftNames.contains (suffixed suffix0 (suffixCounter leftNames suffix0 rightNames) n)) = false :=
    counter_no_collision leftNames rightNames suffix0 _ 0 (by simpa [suffixCounter] using hfuel)
  unfold autoSuffixMap at h
  simp only at h
  generalize hcnt : suffixCounter leftNames suffix0 rightNames = cnt at h hnc
  generalize htr : (if (!rightNames.any fun n => !rightOnNames.contains n && leftNames.contains n) = true then
      List.filter leftNames.contains rightNames else rightNames) = toRename at h
  split at h
  · cases h
  · rename_i hclash
    injection h with h
    subst h
    -- a name that is not renamed is not a left name
    have huntouched : ∀ n ∈ rightNames, n ∉ toRename → n ∉ leftNames := by
      intro n hn hnot hl
      rw [← htr] at hnot; split at hnot
      · exact hnot (List.mem_filter.2 ⟨hn, by simpa using hl⟩)
      · exact hnot hn
    -- `renameBy` is the model's `renameName`
    rw [show renameBy (toRename.map (fun n => (n, suffixed suffix0 cnt n))) = (fun n => if n ∈ toRename then suffixed suffix0 cnt n else n) from
      funext (renameName_map toRename _)]
    refine ⟨fun n hn => ?_, nodup_map_rename hr (suffixed_inj suffix0 cnt) (fun a ha b hb hbT hab => hclash ?_)⟩
    · show (if n ∈ toRename then suffixed suffix0 cnt n else n) ∉ leftNames
      split
      · intro hl
        have := List.any_eq_false.1 hnc n hn
        simp [hl] at this
      · rename_i ht; exact huntouched n hn ht
    · -- the `rename` verb refuses a new name that hits an untouched one
      rw [List.any_eq_true]
      refine ⟨b, List.mem_filter.2 ⟨hb, ?_⟩, ?_⟩
      · simp only [List.any_map, Bool.not_eq_true', List.any_eq_false]
        intro x hx; simp only [Function.comp_apply, beq_iff_eq]; intro hxb; exact hbT (hxb ▸ hx)
      · rw [List.any_map, List.any_eq_true]; exact ⟨a, ha, by simpa using hab⟩

/-- `x` clashes, `x_r` is taken → counter 1; because a non-key column clashes every right column gets the
    suffix; `hfuel` holds -/
example : (autoSuffixMap ["x", "y", "x_r"] ["x", "q"] [] "_r").toOption = some [("x", "x_r_1"), ("q", "q_r_1")] ∧
    suffixCounter ["x", "y", "x_r"] "_r" ["x", "q"] < 3 * 2 + 1 := by decide +kernel

/-- only join keys clash: only they are renamed -/
example : (autoSuffixMap ["k", "a"] ["k", "b"] ["k"] "_r").toOption = some [("k", "k_r")] := by decide +kernel

/-! ### scope: every column of either input stays reachable -/

theorem dictOf_keys {α β} [BEq α] [LawfulBEq α] (l : List (α × β)) (k : α) :
    k ∈ (Cache.dictOf l).map (·.1) ↔ k ∈ l.map (·.1) :=
  Cache.dictOf_keys l k

/-- after a join the scope holds exactly the columns (visible *and* hidden) of both inputs -/
theorem join_scope (c r : Cache) (i : NodeId) (ch rt : Ast) (on : Expr) (how : How) (u : Uid) :
    u ∈ (c.update (.join i ch rt on how) (some r)).cols.map (·.1) ↔ (u ∈ c.cols.map (·.1) ∨ u ∈ r.cols.map (·.1)) := by
  simp only [Cache.update, Cache.dictUnion]
  rw [dictOf_keys]
  simp

/-- … with their metadata, when the two inputs share no column identity (`applyVerb` refuses to join
    tables with a common origin) -/
theorem join_scope_meta (c r : Cache) (i : NodeId) (ch rt : Ast) (on : Expr) (how : How)
    (h : ((c.cols ++ r.cols).map (·.1)).Nodup) :
    (c.update (.join i ch rt on how) (some r)).cols = c.cols ++ r.cols := by
  simp only [Cache.update, Cache.dictUnion]
  exact Cache.dictOf_keys_nodup _ h

end Pdt.C06
