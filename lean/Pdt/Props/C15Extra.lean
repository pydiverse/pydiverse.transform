/-
  C15 (continued) — further equivalent spellings in the reference semantics: the order of `filter` calls, repeated
  filters, `union` with swapped operands (the same multiset of rows read by column name), shape verbs against row verbs.
-/
import Pdt.Props.C15
import Pdt.Props.C07

namespace Pdt.C15
open Pdt Pdt.Spec Pdt.Ops

theorem filter_commute (db : DB) (i j k l : NodeId) (c : Ast) (p q : List Expr)
    (hp : isEwiseList p = true) (hq : isEwiseList q = true) :
    (run db (.filter j (.filter i c p) q)).rows = (run db (.filter l (.filter k c q) p)).rows := by
  rw [run_filter, run_filter, run_filter, run_filter, filterRows_filterRows _ p q hp hq, filterRows_filterRows _ q p hq hp]
  exact List.filter_congr (fun r _ => Bool.and_comm ..)

theorem filter_idempotent (db : DB) (i j k : NodeId) (c : Ast) (p : List Expr) (hp : isEwiseList p = true) :
    (run db (.filter j (.filter i c p) p)).rows = (run db (.filter k c p)).rows := by
  rw [run_filter, run_filter, run_filter, filterRows_filterRows _ p p hp hp, filterRows_ewise _ p hp]
  exact List.filter_congr (fun r _ => Bool.and_self _)

/-- a filter never changes columns, names or grouping: the two spellings agree on the whole table -/
theorem filter_split_table (db : DB) (i j k : NodeId) (c : Ast) (p q : List Expr)
    (hp : isEwiseList p = true) (hq : isEwiseList q = true) :
    run db (.filter j (.filter i c p) q) = run db (.filter k c (p ++ q)) :=
  stbl_eq _ _ (filter_split db i j k c p q hp hq) rfl rfl

/-- every row `slice_head` returns after a `filter` satisfies the predicates -/
theorem slice_after_filter_keeps (db : DB) (i j : NodeId) (c : Ast) (p : List Expr) (n off : Int)
    (hp : isEwiseList p = true) (r : Row)
    (hr : r ∈ (run db (.sliceHead j (.filter i c p) n off)).rows) : keeps p r = true := by
  rw [run_sliceHead, run_filter, filterRows_ewise _ p hp] at hr
  have h1 := List.mem_of_mem_drop (List.mem_of_mem_take hr)
  exact (List.mem_filter.mp h1).2


def byName (vis : List (String × Uid)) (row : Row) (n : String) : Val :=
  match vis.find? (·.1 == n) with
  | some (_, u) => row.get u
  | none => .null

theorem byName_projTo (lv tv : List (String × Uid)) (row : Row) (n : String) (e : String × Uid)
    (hf : lv.find? (·.1 == n) = some e) (hnd : (lv.map (·.2)).Nodup) :
    byName lv (projTo lv tv row) n = byName tv row n := by
  have hmem : e ∈ lv := List.mem_of_find?_eq_some hf
  have hn : e.1 = n := by simpa using List.find?_some hf
  unfold byName
  rw [hf]
  show (projTo lv tv row).get e.2 = _
  unfold projTo
  rw [Pdt.C07.get_map_of_mem _ lv hnd e hmem, hn]
  cases tv.find? (·.1 == n) <;> rfl

/-- `union(l, r)` and `union(r, l)` (without `distinct`) hold the same multiset of rows when every row is read through
    a list `ns` of column names that both operands have and the visible identities of each operand are distinct: the
    two results differ only in whose column order and identities they carry -/
theorem union_swap_perm (db : DB) (i j : NodeId) (c r : Ast) (ns : List String)
    (hl : ∀ n ∈ ns, ∃ e, (run db c).visible.find? (·.1 == n) = some e)
    (hr : ∀ n ∈ ns, ∃ e, (run db r).visible.find? (·.1 == n) = some e)
    (hndl : ((run db c).visible.map (·.2)).Nodup) (hndr : ((run db r).visible.map (·.2)).Nodup) :
    ((run db (.union i c r false)).rows.map (fun row => ns.map (byName (run db (.union i c r false)).visible row))).Perm
      ((run db (.union j r c false)).rows.map (fun row => ns.map (byName (run db (.union j r c false)).visible row))) := by
  simp only [run_union, Bool.false_eq_true, if_false, List.map_append, List.map_map]
  -- a row re-keyed to `lv` by name and read back by name is the row read by name
  have e : ∀ (lv : List (String × Uid)), (∀ n ∈ ns, ∃ e, lv.find? (·.1 == n) = some e) → (lv.map (·.2)).Nodup →
      ∀ (tv : List (String × Uid)) (rows : List Row),
        rows.map ((fun row => ns.map (byName lv row)) ∘ projTo lv tv) = rows.map (fun row => ns.map (byName tv row)) := by
    intro lv hf hnd tv rows
    refine List.map_congr_left (fun row _ => List.map_congr_left (fun n hn => ?_))
    obtain ⟨e, he⟩ := hf n hn
    exact byName_projTo lv tv row n e he hnd
  rw [e _ hl hndl, e _ hl hndl, e _ hr hndr, e _ hr hndr]
  exact List.perm_append_comm

/-- one side on an instance: two one-column sources with different identities -/
example :
    let db : DB := [("l", [[.int 1], [.int 2]]), ("r", [[.int 3]])]
    let c : Ast := .source 0 "l" [("a", 10, .int64)] .polars
    let r : Ast := .source 1 "r" [("a", 20, .int64)] .polars
    (run db (.union 2 c r false)).rows.map (fun row => ["a"].map (byName (run db (.union 2 c r false)).visible row))
      = [[.int 1], [.int 2], [.int 3]] := by decide +kernel


/-- `select` only changes which columns are visible, `filter` only which rows remain -/
theorem select_filter_commute (db : DB) (i j k l : NodeId) (c : Ast) (cols : List (Uid × ColMeta)) (p : List Expr) :
    run db (.filter j (.select i c cols) p) = run db (.select l (.filter k c p) cols) :=
  rfl

theorem rename_filter_commute (db : DB) (i j k l : NodeId) (c : Ast) (m : List (String × String)) (p : List Expr) :
    run db (.filter j (.rename i c m) p) = run db (.rename l (.filter k c p) m) :=
  rfl

/-- a `select` / `rename` between `arrange` and `slice_head` does not change which rows are cut -/
theorem select_arrange_slice_commute (db : DB) (i j k l m n : NodeId) (c : Ast) (cols : List (Uid × ColMeta)) (o : List Ord)
    (cnt off : Int) :
    run db (.sliceHead k (.select j (.arrange i c o) cols) cnt off) = run db (.select n (.sliceHead m (.arrange l c o) cnt off) cols) :=
  rfl

theorem rename_arrange_slice_commute (db : DB) (i j k l m n : NodeId) (c : Ast) (mp : List (String × String)) (o : List Ord)
    (cnt off : Int) :
    run db (.sliceHead k (.rename j (.arrange i c o) mp) cnt off) = run db (.rename n (.sliceHead m (.arrange l c o) cnt off) mp) :=
  rfl

end Pdt.C15
