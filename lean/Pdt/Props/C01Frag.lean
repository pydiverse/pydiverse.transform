/-
  C01, the row-level fragment `Frag` (a source table, then `select`, `rename`, `filter`, `mutate` with element-wise
  expressions): the compiler model returns one SELECT that the invariant `Inv` ties to the table of the reference
  semantics (`frag_refines`).  `Inv` is the instance without ORDER BY / LIMIT of `InvO`, on which `select`, `rename` and
  `mutate` are proved, once for both.
-/
import Pdt.Props.Lemmas.Inline
import Pdt.Props.Lemmas.Sort
import Pdt.Props.Lemmas.Assoc
import Pdt.Props.Lemmas.Compile
import Pdt.Props.Lemmas.Run

namespace Pdt.C01
open Pdt Pdt.Spec Pdt.Sql

/-! ### ORDER BY / LIMIT on lists of rows -/

def ordSpec (O : List Ord) : List (Bool × Option Bool) := O.map (fun o => (o.2.1, o.2.2))

/-- the `idx` both `Spec.sortRows` and `Sql.evalSelect` compute from their key table -/
def sortIdxOf (K : List (List Val)) (spec : List (Bool × Option Bool)) : List Nat :=
  stableSort (fun i j => cmpKeys spec (K.getD i []) (K.getD j [])) (List.range K.length)

def keyTable (O : List Ord) (f : Row → Row) (l : List Row) : List (List Val) :=
  l.map (fun b => O.map (fun o => evalRow (f b) o.1))

/-- `l` in the order in which `Spec.sortRows` puts `l.map f` (`sortRows_map`, C01Ord: for element-wise keys) -/
def sortedBase (O : List Ord) (f : Row → Row) (l : List Row) : List Row :=
  (sortIdxOf (keyTable O f l) (ordSpec O)).map (fun i => l.getD i [])

/-- the keys of an `arrange` are element-wise -/
def isEwiseOrds (O : List Ord) : Bool := isEwiseList (O.map (·.1))

/-- `Sql.cutIdx` (OFFSET / LIMIT) on any list -/
def cutList {α} (q : Query) (l : List α) : List α :=
  match q.limit with
  | none => l
  | some lim => (l.drop (q.offset.getD 0).toNat).take lim.toNat

/-- the FROM rows whose Spec row `f b` passes WHERE -/
def passing (db : DB) (src : Src) (W : List Expr) (f : Row → Row) : List Row := (evalSrc db src).filter (fun b => keeps W (f b))

theorem sortIdxOf_mem (K : List (List Val)) (spec : List (Bool × Option Bool)) (i : Nat) (h : i ∈ sortIdxOf K spec) : i < K.length := by
  simpa using (stableSort_perm _ _).mem_iff.1 h

theorem sortIdxOf_nil_spec (K : List (List Val)) : sortIdxOf K [] = List.range K.length :=
  stableSort_sorted_id _ _ (List.pairwise_of_forall_mem_list (fun _ _ _ _ => by simp [cmpKeys]))

theorem sortedBase_nil (f : Row → Row) (l : List Row) : sortedBase [] f l = l := by
  simp only [sortedBase, ordSpec, List.map_nil, sortIdxOf_nil_spec, keyTable, List.length_map]
  exact range_getD l []

/-! ### the fragment and the invariant -/

/-- pipelines of the row-level fragment, with the column identities in scope -/
inductive Frag : Ast → List Uid → Prop
  | source (i : NodeId) (name : String) (cols : List (String × Uid × Dtype)) (be : Backend) :
      (cols.map (·.2.1)).Nodup → Frag (.source i name cols be) (cols.map (·.2.1))
  | select {c sc} (i : NodeId) (cols : List (Uid × ColMeta)) : Frag c sc →
      (∀ db, ∀ cu ∈ cols, ∃ e ∈ (Spec.run db c).visible, e.2 = cu.1) → Frag (.select i c cols) sc
  | rename {c sc} (i : NodeId) (m : List (String × String)) : Frag c sc → Frag (.rename i c m) sc
  | filter {c sc} (i : NodeId) (preds : List Expr) : Frag c sc → isEwiseList preds = true →
      (∀ u ∈ Expr.uidsList preds, u ∈ sc) → Frag (.filter i c preds) sc
  | mutate {c sc} (i : NodeId) (L : List (String × Uid × Expr)) (metas : List (Dtype × Ftype)) : Frag c sc →
      isEwiseList (L.map (·.2.2)) = true → (∀ u ∈ Expr.uidsList (L.map (·.2.2)), u ∈ sc) →
      (∀ t ∈ L, t.2.1 ∉ sc) → (L.map (·.2.1)).Nodup →
      Frag (.mutate i c (L.map (·.1)) (L.map (·.2.2)) (L.map (·.2.1)) metas) (sc ++ L.map (·.2.1))

/-- the compiled SELECT `r` against the reference table `t`; `sc`: the identities that have a definition -/
structure Inv (db : DB) (sc : List Uid) (r : Compiled) (t : STbl) : Prop where
  hg : r.query.groupBy = []
  hh : r.query.having = []
  ho : r.query.orderBy = []
  hl : r.query.limit = none
  hd : DefsEwise r.defs
  hkeys : ∀ u, (r.defs.get u).isSome = true ↔ u ∈ sc
  hsel : r.query.select = t.visible.map (·.2)
  hname : ∀ e ∈ t.visible, r.defs.name e.2 = e.1
  hvis : ∀ e ∈ t.visible, e.2 ∈ sc
  hw : isEwiseList r.query.where_ = true ∧ ∀ u ∈ Expr.uidsList r.query.where_, u ∈ sc
  -- the last conjunct is for `ext_get_new`: `Row.get` finds the FIRST entry, so a column appended to `f b` is read only if
  -- its identity does not occur in `f b`
  hrows : ∃ f : Row → Row,
    t.rows = ((evalSrc db r.src).filter (fun b => keeps r.query.where_ (f b))).map f ∧
    (∀ b ∈ evalSrc db r.src, Agree r.defs b (f b)) ∧ (∀ b ∈ evalSrc db r.src, ∀ e ∈ f b, e.1 ∈ sc)

/-- the same with ORDER BY (element-wise keys over the scope) and, when `lim`, OFFSET / LIMIT -/
structure InvO (db : DB) (sc : List Uid) (lim : Bool) (r : Compiled) (t : STbl) : Prop where
  hg : r.query.groupBy = []
  hh : r.query.having = []
  hlim : lim = false → r.query.limit = none
  hd : DefsEwise r.defs
  hkeys : ∀ u, (r.defs.get u).isSome = true ↔ u ∈ sc
  hsel : r.query.select = t.visible.map (·.2)
  hname : ∀ e ∈ t.visible, r.defs.name e.2 = e.1
  hvis : ∀ e ∈ t.visible, e.2 ∈ sc
  hw : isEwiseList r.query.where_ = true ∧ ∀ u ∈ Expr.uidsList r.query.where_, u ∈ sc
  hoe : isEwiseOrds r.query.orderBy = true ∧ ∀ u ∈ Expr.uidsList (r.query.orderBy.map (·.1)), u ∈ sc
  hrows : ∃ f : Row → Row,
    t.rows = (cutList r.query (sortedBase r.query.orderBy f (passing db r.src r.query.where_ f))).map f ∧
    (∀ b ∈ evalSrc db r.src, Agree r.defs b (f b)) ∧ (∀ b ∈ evalSrc db r.src, ∀ e ∈ f b, e.1 ∈ sc)

variable {db : DB} {sc : List Uid} {lim : Bool} {r : Compiled} {t : STbl}

theorem Inv.toO (h : Inv db sc r t) : InvO db sc false r t := by
  obtain ⟨f, h1, h2, h3⟩ := h.hrows
  exact { h with
    hlim := fun _ => h.hl
    hoe := by rw [h.ho]; exact ⟨rfl, nofun⟩
    hrows := ⟨f, by rw [h1, h.ho, sortedBase_nil]; simp [cutList, h.hl, passing], h2, h3⟩ }

theorem InvO.toInv (h : InvO db sc false r t) (ho : r.query.orderBy = []) : Inv db sc r t := by
  obtain ⟨f, h1, h2, h3⟩ := h.hrows
  exact { h with
    ho := ho
    hl := h.hlim rfl
    hrows := ⟨f, by rw [h1, ho, sortedBase_nil]; simp [cutList, h.hlim rfl, passing], h2, h3⟩ }

theorem InvO.covers (h : InvO db sc lim r t) {l : List Uid} (hl : ∀ u ∈ l, u ∈ sc) : Covers r.defs l :=
  fun u hu => (h.hkeys u).2 (hl u hu)

theorem Inv.covers (h : Inv db sc r t) {l : List Uid} (hl : ∀ u ∈ l, u ∈ sc) : Covers r.defs l := h.toO.covers hl

theorem InvO.sel_scope (h : InvO db sc lim r t) : ∀ u ∈ r.query.select, u ∈ sc := by
  rw [h.hsel]; exact List.forall_mem_map.2 h.hvis

theorem InvO.labels (h : InvO db sc lim r t) : r.query.select.map r.defs.name = t.visible.map (·.1) := by
  rw [h.hsel, List.map_map]; exact List.map_congr_left h.hname

/-! ### `select`, `rename`, `mutate` on `InvO`; `filter` on `Inv` -/

/-- the `visible` of `Spec.run (.select …)` -/
theorem filterMap_find_ids {α} (vis : List (String × Uid)) : ∀ (cols : List (Uid × α)), (∀ cu ∈ cols, ∃ e ∈ vis, e.2 = cu.1) →
    (cols.filterMap (fun cu => vis.find? (·.2 == cu.1))).map (·.2) = cols.map (·.1)
  | [], _ => rfl
  | cu :: cs, h => by
      obtain ⟨e, he, heq⟩ := h cu List.mem_cons_self
      obtain ⟨x, hx⟩ := Option.isSome_iff_exists.1 (List.find?_isSome (p := fun e => e.2 == cu.1).2 ⟨e, he, by simp [heq]⟩)
      rw [List.filterMap_cons, hx, List.map_cons, List.map_cons, filterMap_find_ids vis cs (fun x hx => h x (List.mem_cons_of_mem _ hx)),
        show x.2 = cu.1 by simpa using List.find?_some hx]

theorem InvO.select (inv : InvO db sc lim r t) (cols : List (Uid × ColMeta)) (hsel : ∀ cu ∈ cols, ∃ e ∈ t.visible, e.2 = cu.1) :
    InvO db sc lim { r with query := { r.query with select := cols.map (·.1) } }
      { t with visible := cols.filterMap (fun cu => t.visible.find? (·.2 == cu.1)) } := by
  have hmem : ∀ e ∈ cols.filterMap (fun cu => t.visible.find? (·.2 == cu.1)), e ∈ t.visible := by
    intro e he
    obtain ⟨cu, _, h⟩ := List.mem_filterMap.1 he
    exact List.mem_of_find?_eq_some h
  exact { inv with
    hsel := (filterMap_find_ids _ cols hsel).symm
    hname := fun e he => inv.hname e (hmem e he)
    hvis := fun e he => inv.hvis e (hmem e he) }

theorem get_map_rename (d : Defs) (m : List (String × String)) (u : Uid) :
    Defs.get (d.map (fun (e : Uid × String × Expr) => (e.1, renameName m e.2.1, e.2.2))) u =
      (d.get u).map (fun p => (renameName m p.1, p.2)) := by
  rw [Defs.get_map (fun e : Uid × String × Expr => e.1) (fun e => (renameName m e.2.1, e.2.2)), Defs.get, Option.map_map]; rfl

theorem InvO.rename (inv : InvO db sc lim r t) (m : List (String × String)) :
    InvO db sc lim { r with defs := r.defs.map (fun e => (e.1, renameName m e.2.1, e.2.2)) }
      { t with visible := t.visible.map (fun e => (renameName m e.1, e.2)) } := by
  have hget : ∀ u n x, Defs.get (r.defs.map (fun e => (e.1, renameName m e.2.1, e.2.2))) u = some (n, x) →
      ∃ n0, r.defs.get u = some (n0, x) := by
    intro u n x h
    rw [get_map_rename] at h
    cases hg : r.defs.get u with
    | none => simp [hg] at h
    | some p => exact ⟨p.1, by simp only [hg, Option.map_some, Option.some.injEq, Prod.mk.injEq] at h; rw [← h.2]⟩
  obtain ⟨f, h1, h2, h3⟩ := inv.hrows
  refine { inv with hd := ?_, hkeys := ?_, hsel := ?_, hname := ?_, hvis := ?_, hrows := ⟨f, h1, ?_, h3⟩ }
  · intro u n x h
    obtain ⟨n0, h0⟩ := hget u n x h
    exact inv.hd u n0 x h0
  · intro u
    simp only [get_map_rename, Option.isSome_map]
    exact inv.hkeys u
  · rw [inv.hsel, List.map_map]; rfl
  · intro e he
    obtain ⟨e0, he0, rfl⟩ := List.mem_map.1 he
    obtain ⟨p, hp⟩ := Option.isSome_iff_exists.1 ((inv.hkeys e0.2).2 (inv.hvis e0 he0))
    rw [← inv.hname e0 he0, Defs.name_of_get hp]
    exact Defs.name_of_get (by rw [get_map_rename, hp]; rfl)
  · exact List.forall_mem_map.2 inv.hvis
  · intro b hb u n x h
    obtain ⟨n0, h0⟩ := hget u n x h
    exact h2 b hb u n0 x h0

/-- the definitions `mutate(L)` or `summarize(L)` adds; `L` lists (name, identity, value) -/
def newDefs (d : Defs) (L : List (String × Uid × Expr)) : Defs := L.map (fun t => (t.2.1, t.1, inline d t.2.2))

/-- the entries a `mutate` appends to a row of the reference semantics -/
def ext (L : List (String × Uid × Expr)) (s : Row) : Row := L.map (fun t => (t.2.1, evalRow s t.2.2))

/-- what `compile` returns for `mutate(L)` over `r` when the new identities are fresh (`setDefs_fresh`) -/
def mutOut (r : Compiled) (L : List (String × Uid × Expr)) : Compiled :=
  { r with query := { r.query with select := r.query.select.filter (fun u => !(L.map (·.1)).contains (r.defs.name u)) ++ L.map (·.2.1) },
           defs := r.defs ++ newDefs r.defs L }

theorem keeps_inline (d : Defs) (b s : Row) (ha : Agree d b s) : ∀ (W : List Expr), Covers d (Expr.uidsList W) →
    keeps (W.map (inline d)) b = keeps W s
  | [], _ => rfl
  | p :: ps, hc => by
      rw [List.map_cons, keeps_cons, keeps_cons, inline_eval d b s ha p (fun u hu => hc u (List.mem_append_left _ hu)),
        keeps_inline d b s ha ps (fun u hu => hc u (List.mem_append_right _ hu))]

structure NewCols (sc : List Uid) (L : List (String × Uid × Expr)) : Prop where
  fresh : ∀ t ∈ L, t.2.1 ∉ sc
  nodup : (L.map (·.2.1)).Nodup

section newDefs
variable {d : Defs} {L : List (String × Uid × Expr)}

theorem setDefs_fresh (hkeys : ∀ u, (d.get u).isSome = true ↔ u ∈ sc) (hL : NewCols sc L) :
    setDefs d (L.map (·.1)) (L.map (·.2.2)) (L.map (·.2.1)) = d ++ newDefs d L := by
  have hz : ((L.map (·.1)).zip ((L.map (·.2.1)).zip (L.map (·.2.2)))).map (fun nuv => (nuv.2.1, nuv.1, inline d nuv.2.2)) = newDefs d L := by
    rw [List.zip_map', List.zip_map', List.map_map]; rfl
  rw [setDefs, hz]
  refine foldl_set_fresh _ _ ?_ (by rw [newDefs, List.map_map]; exact hL.nodup)
  intro e he
  obtain ⟨t, ht, rfl⟩ := List.mem_map.1 he
  rw [Bool.eq_false_iff, Ne, hkeys]
  exact hL.fresh t ht

theorem get_old (hkeys : ∀ u, (d.get u).isSome = true ↔ u ∈ sc) {u : Uid} (hu : u ∈ sc) : Defs.get (d ++ newDefs d L) u = d.get u := by
  obtain ⟨p, hp⟩ := Option.isSome_iff_exists.1 ((hkeys u).2 hu)
  rw [Defs.get_append, hp]; rfl

theorem get_new (hkeys : ∀ u, (d.get u).isSome = true ↔ u ∈ sc) (hL : NewCols sc L)
    {t : String × Uid × Expr} (ht : t ∈ L) : Defs.get (d ++ newDefs d L) t.2.1 = some (t.1, inline d t.2.2) := by
  have : d.get t.2.1 = none := by
    rw [← Option.not_isSome_iff_eq_none, hkeys]; exact hL.fresh t ht
  rw [Defs.get_append, this, Option.none_or]
  exact Defs.get_map_of_mem (fun t : String × Uid × Expr => t.2.1) (fun t => (t.1, inline d t.2.2)) hL.nodup ht

theorem get_cases (hkeys : ∀ u, (d.get u).isSome = true ↔ u ∈ sc) {u : Uid} {p : String × Expr}
    (h : Defs.get (d ++ newDefs d L) u = some p) :
    (u ∈ sc ∧ d.get u = some p) ∨ (∃ t ∈ L, t.2.1 = u ∧ p = (t.1, inline d t.2.2)) := by
  rw [Defs.get_append] at h
  cases hg : d.get u with
  | some q => rw [hg] at h; exact Or.inl ⟨(hkeys u).1 (by rw [hg]; rfl), h⟩
  | none =>
    rw [hg, Option.none_or, newDefs, Defs.get_map (fun t : String × Uid × Expr => t.2.1) (fun t => (t.1, inline d t.2.2))] at h
    cases hf : L.find? (fun t => t.2.1 == u) with
    | none => simp [hf] at h
    | some t =>
      rw [hf, Option.map_some, Option.some.injEq] at h
      exact Or.inr ⟨t, List.mem_of_find?_eq_some hf, by simpa using List.find?_some hf, h.symm⟩

theorem ext_keys (hkeys : ∀ u, (d.get u).isSome = true ↔ u ∈ sc) (u : Uid) :
    (Defs.get (d ++ newDefs d L) u).isSome = true ↔ u ∈ sc ++ L.map (·.2.1) := by
  rw [Defs.get_isSome_iff, List.map_append, List.mem_append, ← Defs.get_isSome_iff, hkeys, List.mem_append, newDefs, List.map_map]
  rfl

theorem name_old (hkeys : ∀ u, (d.get u).isSome = true ↔ u ∈ sc) {u : Uid} (hu : u ∈ sc) : Defs.name (d ++ newDefs d L) u = d.name u := by
  rw [Defs.name, get_old hkeys hu]; rfl

theorem name_new (hkeys : ∀ u, (d.get u).isSome = true ↔ u ∈ sc) (hL : NewCols sc L)
    {t : String × Uid × Expr} (ht : t ∈ L) : Defs.name (d ++ newDefs d L) t.2.1 = t.1 :=
  Defs.name_of_get (get_new hkeys hL ht)

end newDefs

/-- the form `Spec.run` gives the rows of `mutate` and of `summarize`, hence any `v` -/
theorem ext_get_old {L : List (String × Uid × Expr)} (hL : NewCols sc L) (s : Row) (v : String × Uid × Expr → Val)
    {u : Uid} (hu : u ∈ sc) : Row.get (s ++ L.map (fun t => (t.2.1, v t))) u = s.get u :=
  get_append_other _ _ _ (fun e he heq => by
    obtain ⟨t, ht, rfl⟩ := List.mem_map.1 he
    exact hL.fresh t ht (heq ▸ hu))

theorem ext_get_new {L : List (String × Uid × Expr)} (hL : NewCols sc L) (s : Row) (hs : ∀ e ∈ s, e.1 ∈ sc)
    (v : String × Uid × Expr → Val) {t : String × Uid × Expr} (ht : t ∈ L) :
    Row.get (s ++ L.map (fun t => (t.2.1, v t))) t.2.1 = v t := by
  have : s.find? (·.1 == t.2.1) = none := by
    rw [List.find?_eq_none]
    intro e he heq
    exact hL.fresh t ht ((by simpa using heq : e.1 = t.2.1) ▸ hs e he)
  rw [Row.get_append, this]
  exact Row.get_map_of_mem (fun t : String × Uid × Expr => t.2.1) v hL.nodup ht

theorem InvO.mutOut_select (inv : InvO db sc lim r t) (L : List (String × Uid × Expr)) :
    (mutOut r L).query.select = (t.visible.filter (fun e => !(L.map (·.1)).contains e.1) ++ L.map (fun x => (x.1, x.2.1))).map (·.2) := by
  simp only [mutOut, List.map_append, List.map_map, inv.hsel, List.filter_map]
  congr 2
  exact List.filter_congr (fun e he => by simp only [Function.comp_apply, inv.hname e he])

theorem InvO.mutate (inv : InvO db sc lim r t) (L : List (String × Uid × Expr))
    (hv : isEwiseList (L.map (·.2.2)) = true) (hu : ∀ u ∈ Expr.uidsList (L.map (·.2.2)), u ∈ sc)
    (hL : NewCols sc L) :
    InvO db (sc ++ L.map (·.2.1)) lim (mutOut r L)
      { t with rows := t.rows.map (fun s => s ++ ext L s),
               visible := t.visible.filter (fun e => !(L.map (·.1)).contains e.1) ++ L.map (fun x => (x.1, x.2.1)) } := by
  obtain ⟨f, h1, h2, h3⟩ := inv.hrows
  refine { inv with
    hd := ?_, hkeys := ext_keys inv.hkeys, hsel := inv.mutOut_select L, hname := ?_, hvis := ?_
    hw := ⟨inv.hw.1, fun u hu' => List.mem_append_left _ (inv.hw.2 u hu')⟩
    hoe := ⟨inv.hoe.1, fun u hu' => List.mem_append_left _ (inv.hoe.2 u hu')⟩
    hrows := ⟨fun b => f b ++ ext L (f b), ?_, ?_, ?_⟩ }
  · intro u n x h
    rcases get_cases inv.hkeys h with ⟨_, h⟩ | ⟨x, hx, _, hp⟩
    · exact inv.hd u n x h
    · rw [(Prod.mk.inj hp).2]
      exact inline_ewise _ inv.hd _ ((isEwiseList_iff _).1 hv _ (List.mem_map.2 ⟨x, hx, rfl⟩))
  · intro e he
    rcases List.mem_append.1 he with he | he
    · have he := (List.mem_filter.1 he).1
      exact (name_old inv.hkeys (inv.hvis e he)).trans (inv.hname e he)
    · obtain ⟨x, hx, rfl⟩ := List.mem_map.1 he
      exact name_new inv.hkeys hL hx
  · intro e he
    rcases List.mem_append.1 he with he | he
    · exact List.mem_append_left _ (inv.hvis e (List.mem_filter.1 he).1)
    · obtain ⟨x, hx, rfl⟩ := List.mem_map.1 he
      exact List.mem_append_right _ (List.mem_map.2 ⟨x, hx, rfl⟩)
  · -- WHERE and ORDER BY read old columns only: the same rows pass, in the same order
    have hpass : passing db r.src r.query.where_ (fun b => f b ++ ext L (f b)) = passing db r.src r.query.where_ f :=
      List.filter_congr (fun b _ => keeps_congr _ _ _ (fun u hu' => ext_get_old hL (f b) _ (inv.hw.2 u hu')))
    have hkey : ∀ l, keyTable r.query.orderBy (fun b => f b ++ ext L (f b)) l = keyTable r.query.orderBy f l := fun l =>
      List.map_congr_left (fun b _ => List.map_congr_left (fun o ho => evalRow_congr _ _ o.1 (fun u hu' =>
        ext_get_old hL (f b) _ (inv.hoe.2 u (Expr.mem_uidsList (List.mem_map.2 ⟨o, ho, rfl⟩) hu')))))
    show t.rows.map _ = (cutList r.query (sortedBase r.query.orderBy _ (passing db r.src r.query.where_ _))).map _
    rw [h1, List.map_map, hpass, show sortedBase r.query.orderBy (fun b => f b ++ ext L (f b)) = sortedBase r.query.orderBy f from
      funext fun l => by rw [sortedBase, hkey, sortedBase]]
    rfl
  · intro b hb u n x h
    rcases get_cases inv.hkeys h with ⟨hus, h⟩ | ⟨x, hx, rfl, hp⟩
    · exact (h2 b hb u n x h).trans (ext_get_old hL (f b) _ hus).symm
    · rw [(Prod.mk.inj hp).2, inline_eval r.defs b (f b) (h2 b hb) x.2.2 (inv.covers (fun u hu' => hu u (Expr.mem_uidsList (List.mem_map.2 ⟨x, hx, rfl⟩) hu')))]
      exact (ext_get_new hL (f b) (h3 b hb) (fun t => evalRow (f b) t.2.2) hx).symm
  · intro b hb e he
    rcases List.mem_append.1 he with h | h
    · exact List.mem_append_left _ (h3 b hb e h)
    · obtain ⟨x, hx, rfl⟩ := List.mem_map.1 h
      exact List.mem_append_right _ (List.mem_map.2 ⟨x, hx, rfl⟩)

theorem run_mutate_ewise (db : DB) (i : NodeId) (c : Ast) (L : List (String × Uid × Expr)) (metas : List (Dtype × Ftype))
    (hv : isEwiseList (L.map (·.2.2)) = true) :
    Spec.run db (.mutate i c (L.map (·.1)) (L.map (·.2.2)) (L.map (·.2.1)) metas) =
      { (Spec.run db c) with
          rows := (Spec.run db c).rows.map (fun s => s ++ ext L s),
          visible := (Spec.run db c).visible.filter (fun e => !(L.map (·.1)).contains e.1) ++ L.map (fun x => (x.1, x.2.1)) } := by
  rw [Spec.run_mutate, mutate_rows_ewise _ _ _ hv]
  simp only [List.zip_map', ext, List.map_map]
  rfl

theorem uidsList_append (a b : List Expr) : Expr.uidsList (a ++ b) = Expr.uidsList a ++ Expr.uidsList b := by
  simp only [Expr.uidsList_eq_flatMap, List.flatMap_append]

theorem Inv.filter (inv : Inv db sc r t) (preds : List Expr) (hp : isEwiseList preds = true) (hu : ∀ u ∈ Expr.uidsList preds, u ∈ sc) :
    Inv db sc { r with query := { r.query with where_ := r.query.where_ ++ preds } } { t with rows := t.rows.filter (keeps preds) } := by
  obtain ⟨f, h1, h2, h3⟩ := inv.hrows
  refine { inv with hw := ⟨?_, ?_⟩, hrows := ⟨f, ?_, h2, h3⟩ }
  · simp [isEwiseList_append, inv.hw.1, hp]
  · intro u huu
    rw [uidsList_append, List.mem_append] at huu
    exact huu.elim (inv.hw.2 u) (hu u)
  · show t.rows.filter _ = _
    rw [h1, List.filter_map, List.filter_filter]
    congr 1
    exact List.filter_congr (fun b _ => by simp only [Function.comp_apply, keeps_append, Bool.and_comm])

/-! ### the base case and the induction over the fragment -/

/-- every column stands for itself: the definitions `compile` returns for a source table, a join of two, a UNION, a subquery
    (`C08.mOuterDefs_eq`) -/
def colDefs (cols : List (String × Uid × Dtype)) : Defs := cols.map (fun c => (c.2.1, c.1, Expr.col c.2.1 c.2.2 .elementWise))

theorem colDefs_get {cols : List (String × Uid × Dtype)} {u : Uid} {n : String} {x : Expr} (h : (colDefs cols).get u = some (n, x)) :
    ∃ dt, x = Expr.col u dt .elementWise := by
  rw [colDefs, Defs.get_map (fun c : String × Uid × Dtype => c.2.1) (fun c => (c.1, Expr.col c.2.1 c.2.2 Ftype.elementWise))] at h
  cases hf : cols.find? (fun c => c.2.1 == u) with
  | none => simp [hf] at h
  | some c =>
    rw [hf, Option.map_some, Option.some.injEq, Prod.mk.injEq] at h
    exact ⟨c.2.2, by rw [← h.2, show c.2.1 = u by simpa using List.find?_some hf]⟩

theorem colDefs_keys (cols : List (String × Uid × Dtype)) : (colDefs cols).map (·.1) = cols.map (·.2.1) := by
  rw [colDefs, List.map_map]; rfl

theorem colDefs_ewise (cols : List (String × Uid × Dtype)) : DefsEwise (colDefs cols) := fun u n x h => by
  obtain ⟨dt, rfl⟩ := colDefs_get h
  rfl

theorem colDefs_agree (cols : List (String × Uid × Dtype)) (b : Row) : Agree (colDefs cols) b b := fun u n x h => by
  obtain ⟨dt, rfl⟩ := colDefs_get h
  rfl

theorem table_keys (db : DB) (n : String) (U : List Uid) : ∀ b ∈ evalSrc db (.table n U), ∀ e ∈ b, e.1 ∈ U := by
  intro b hb e he
  obtain ⟨row, _, rfl⟩ := List.mem_map.1 hb
  exact (List.of_mem_zip he).1

/-- the base case (instances: `source_inv`, `C06.join_source_inv`, `C07.union_inv`): bare columns over FROM rows that *are* the
    rows of the reference table; the row map is `id` -/
theorem Inv.ofCols (db : DB) (src : Src) (cols : List (String × Uid × Dtype)) (hnd : (cols.map (·.2.1)).Nodup)
    {t : STbl} (hrows : t.rows = evalSrc db src) (hvis : t.visible = cols.map (fun c => (c.1, c.2.1)))
    (hkeys : ∀ b ∈ t.rows, ∀ e ∈ b, e.1 ∈ cols.map (·.2.1)) :
    Inv db (cols.map (·.2.1)) ⟨src, { select := cols.map (·.2.1), partitionBy := [] }, colDefs cols⟩ t := by
  refine ⟨rfl, rfl, rfl, rfl, colDefs_ewise cols, fun u => by rw [Defs.get_isSome_iff, colDefs_keys], ?_, ?_, ?_, ⟨rfl, by simp [Expr.uidsList]⟩,
    ⟨id, ?_, fun b _ => colDefs_agree cols b, hrows ▸ hkeys⟩⟩
  · rw [hvis, List.map_map]; rfl
  · intro e he
    obtain ⟨c, hc, rfl⟩ := List.mem_map.1 (hvis ▸ he)
    exact Defs.name_of_get
      (Defs.get_map_of_mem (fun c : String × Uid × Dtype => c.2.1) (fun c => (c.1, Expr.col c.2.1 c.2.2 Ftype.elementWise)) hnd hc)
  · intro e he
    obtain ⟨c, hc, rfl⟩ := List.mem_map.1 (hvis ▸ he)
    exact List.mem_map.2 ⟨c, hc, rfl⟩
  · rw [hrows, List.map_id]
    exact (filter_keeps_nil _).symm

theorem source_inv (db : DB) (i : NodeId) (name : String) (cols : List (String × Uid × Dtype)) (be : Backend)
    (hnd : (cols.map (·.2.1)).Nodup) (needed : Needed) :
    ∃ r n', compile (.source i name cols be) needed = .ok (r, n') ∧ Inv db (cols.map (·.2.1)) r (Spec.run db (.source i name cols be)) :=
  ⟨_, _, compile_source, Inv.ofCols db (.table name _) cols hnd rfl rfl (table_keys db name _)⟩

theorem select_inv (db : DB) (sc : List Uid) (i : NodeId) (c : Ast) (cols : List (Uid × ColMeta))
    (hsel : ∀ cu ∈ cols, ∃ e ∈ (Spec.run db c).visible, e.2 = cu.1)
    (ih : ∀ needed, ∃ r n', compile c needed = .ok (r, n') ∧ Inv db sc r (Spec.run db c)) (needed : Needed) :
    ∃ r n', compile (.select i c cols) needed = .ok (r, n') ∧ Inv db sc r (Spec.run db (.select i c cols)) :=
  compile_step_lift rfl rfl ih (fun _ inv => (inv.toO.select cols hsel).toInv inv.ho) needed

theorem rename_inv (db : DB) (sc : List Uid) (i : NodeId) (c : Ast) (m : List (String × String))
    (ih : ∀ needed, ∃ r n', compile c needed = .ok (r, n') ∧ Inv db sc r (Spec.run db c)) (needed : Needed) :
    ∃ r n', compile (.rename i c m) needed = .ok (r, n') ∧ Inv db sc r (Spec.run db (.rename i c m)) :=
  compile_step_lift rfl rfl ih (fun _ inv => (inv.toO.rename m).toInv inv.ho) needed

theorem filter_inv (db : DB) (sc : List Uid) (i : NodeId) (c : Ast) (preds : List Expr)
    (hp : isEwiseList preds = true) (hu : ∀ u ∈ Expr.uidsList preds, u ∈ sc)
    (ih : ∀ needed, ∃ r n', compile c needed = .ok (r, n') ∧ Inv db sc r (Spec.run db c)) (needed : Needed) :
    ∃ r n', compile (.filter i c preds) needed = .ok (r, n') ∧ Inv db sc r (Spec.run db (.filter i c preds)) :=
  compile_step_lift rfl rfl ih (fun r inv => by
    simpa only [step, inv.hg, List.isEmpty_nil, Bool.not_true, Bool.false_eq_true, ↓reduceIte, Spec.run_filter, filterRows_ewise _ _ hp]
      using inv.filter preds hp hu) needed

theorem mutate_inv (db : DB) (sc : List Uid) (i : NodeId) (c : Ast) (L : List (String × Uid × Expr)) (metas : List (Dtype × Ftype))
    (hv : isEwiseList (L.map (·.2.2)) = true) (hu : ∀ u ∈ Expr.uidsList (L.map (·.2.2)), u ∈ sc)
    (hfresh : ∀ t ∈ L, t.2.1 ∉ sc) (hnd : (L.map (·.2.1)).Nodup)
    (ih : ∀ needed, ∃ r n', compile c needed = .ok (r, n') ∧ Inv db sc r (Spec.run db c)) (needed : Needed) :
    ∃ r n', compile (.mutate i c (L.map (·.1)) (L.map (·.2.2)) (L.map (·.2.1)) metas) needed = .ok (r, n') ∧
      Inv db (sc ++ L.map (·.2.1)) r (Spec.run db (.mutate i c (L.map (·.1)) (L.map (·.2.2)) (L.map (·.2.1)) metas)) :=
  compile_step_lift rfl rfl ih (fun r inv => by
    rw [step, setDefs_fresh inv.hkeys ⟨hfresh, hnd⟩, run_mutate_ewise db i c L metas hv]
    exact (inv.toO.mutate L hv hu ⟨hfresh, hnd⟩).toInv inv.ho) needed

/-- **every pipeline of the row-level fragment compiles, and the invariant holds**, for every database and `needed_cols` state -/
theorem frag_refines {ast : Ast} {sc : List Uid} (h : Frag ast sc) (db : DB) :
    ∀ needed, ∃ r n', compile ast needed = .ok (r, n') ∧ Inv db sc r (Spec.run db ast) := by
  induction h with
  | source i name cols be hnd => exact source_inv db i name cols be hnd
  | select i cols _ hsel ih => exact select_inv db _ i _ cols (hsel db) ih
  | rename i m _ ih => exact rename_inv db _ i _ m ih
  | filter i preds _ hp hu ih => exact filter_inv db _ i _ preds hp hu ih
  | mutate i L metas _ hv hu hfresh hnd ih => exact mutate_inv db _ i _ L metas hv hu hfresh hnd ih

/-- non-vacuity: a three-verb pipeline with a computed column used by a later filter and an
    overwriting mutate is in the fragment -/
example : ∃ sc, Frag
    (.mutate 4 (.filter 3 (.mutate 2 (.source 1 "t" [("a", 10, .int64), ("b", 11, .int64)] .sqlite)
        ["c"] [.fn "add" [.col 10 .int64 .elementWise, .col 11 .int64 .elementWise] none []] [12] [(.int64, .elementWise)])
      [.fn "greater_than" [.col 12 .int64 .elementWise, .lit (.int 0) .int64] none []])
      ["a"] [.fn "mul" [.col 12 .int64 .elementWise, .lit (.int 2) .int64] none []] [13] [(.int64, .elementWise)]) sc := by
  refine ⟨_, Frag.mutate 4 [("a", 13, _)] _ (Frag.filter 3 _ (Frag.mutate 2 [("c", 12, _)] _ (Frag.source 1 "t" _ .sqlite (by decide)) ?_ ?_ ?_ ?_) ?_ ?_) ?_ ?_ ?_ ?_⟩
  all_goals first | decide +kernel | (intro t ht; simp at ht; subst ht; decide)

end Pdt.C01
