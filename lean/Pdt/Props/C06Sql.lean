/-
  C06 on the SQL side.  The FROM clause of the SQL model and the reference semantics compute a join by the same steps
  (`joinRows`), so the join of two source tables is an instance of `Inv.ofCols` with the identity as row map
  (`join_source_inv`).  Such a join followed by row-level verbs (`JFrag`) is therefore a `C01.Base`, and the C01
  refinements apply over it.
-/
import Pdt.Props.C01Gen
import Pdt.Props.C01Ord
import Pdt.Props.Lemmas.Run

namespace Pdt.C06
open Pdt Pdt.Spec Pdt.Sql Pdt.C01

theorem evalSrc_join (db : DB) (l r : Src) (on : Expr) (how : How) :
    evalSrc db (.join l r on how) = joinRows (evalSrc db l) (evalSrc db r) on how := by
  cases how <;> rfl

theorem joinRows_congr {on1 on2 : Expr} (h : ∀ rows : List Row, matchRows rows [on1] = matchRows rows [on2]) (lr rr : List Row) (how : How) :
    joinRows lr rr on1 how = joinRows lr rr on2 how := by
  simp only [joinRows, h]

theorem joinRows_mem {lr rr : List Row} {on : Expr} {how : How} {x : Row} (hx : x ∈ joinRows lr rr on how) :
    ∃ a b, x = a ++ b ∧ (a ∈ lr ∨ a = nullRow ((lr.headD []).map (·.1))) ∧ (b ∈ rr ∨ b = nullRow ((rr.headD []).map (·.1))) := by
  have hfull : x ∈ joinRows lr rr on .full := by
    cases how
    · exact List.mem_append_left _ (List.mem_append_left _ hx)
    · exact List.mem_append_left _ hx
    · exact hx
  rcases List.mem_append.1 hfull with h | h
  · rcases List.mem_append.1 h with h | h
    · obtain ⟨p, hp, rfl⟩ := List.mem_map.1 h
      obtain ⟨q, hq, rfl⟩ := List.mem_map.1 hp
      obtain ⟨a, ha, hq2⟩ := List.mem_flatMap.1 (List.of_mem_zip (List.mem_filter.1 hq).1).1
      obtain ⟨b, hb, hq3⟩ := List.mem_map.1 hq2
      exact ⟨_, _, rfl, Or.inl (hq3 ▸ ha), Or.inl (hq3 ▸ hb)⟩
    · obtain ⟨a, ha, rfl⟩ := List.mem_map.1 h
      exact ⟨_, _, rfl, Or.inl (List.mem_filter.1 ha).1, Or.inr rfl⟩
  · obtain ⟨b, hb, rfl⟩ := List.mem_map.1 h
    exact ⟨_, _, rfl, Or.inr rfl, Or.inl (List.mem_filter.1 hb).1⟩

theorem pad_keys {rows : List Row} {U : List Uid} (h : ∀ b ∈ rows, ∀ e ∈ b, e.1 ∈ U) {a : Row}
    (ha : a ∈ rows ∨ a = nullRow ((rows.headD []).map (·.1))) : ∀ e ∈ a, e.1 ∈ U := by
  rcases ha with ha | rfl
  · exact h a ha
  · intro e he
    obtain ⟨u, hu, rfl⟩ := List.mem_map.1 he
    obtain ⟨e0, he0, rfl⟩ := List.mem_map.1 hu
    cases rows with
    | nil => cases he0
    | cons r rs => exact h r List.mem_cons_self e0 he0

theorem join_keys (db : DB) (l r : Src) (on : Expr) (how : How) (U1 U2 : List Uid)
    (h1 : ∀ b ∈ evalSrc db l, ∀ e ∈ b, e.1 ∈ U1) (h2 : ∀ b ∈ evalSrc db r, ∀ e ∈ b, e.1 ∈ U2) :
    ∀ b ∈ evalSrc db (.join l r on how), ∀ e ∈ b, e.1 ∈ U1 ++ U2 := by
  intro b hb e he
  rw [evalSrc_join] at hb
  obtain ⟨x, y, rfl, hx, hy⟩ := joinRows_mem hb
  rcases List.mem_append.1 he with he | he
  · exact List.mem_append_left _ (pad_keys h1 hx e he)
  · exact List.mem_append_right _ (pad_keys h2 hy e he)

theorem colDefs_merge (cols1 cols2 : List (String × Uid × Dtype)) (hnd : ((cols1.map (·.2.1)) ++ (cols2.map (·.2.1))).Nodup) :
    (colDefs cols2).foldl (fun d e => d.set e.1 e.2) (colDefs cols1) = colDefs (cols1 ++ cols2) := by
  rw [List.nodup_append] at hnd
  rw [show colDefs (cols1 ++ cols2) = colDefs cols1 ++ colDefs cols2 from List.map_append]
  refine foldl_set_fresh _ _ (fun e he => ?_) (by rw [colDefs_keys]; exact hnd.2.1)
  rw [Bool.eq_false_iff, Ne, Defs.get_isSome_iff, colDefs_keys]
  exact fun h1 => hnd.2.2 _ h1 _ (colDefs_keys cols2 ▸ List.mem_map.2 ⟨e, he, rfl⟩) rfl

theorem join_source_compile (i j1 j2 : NodeId) (n1 n2 : String) (cols1 cols2 : List (String × Uid × Dtype)) (be1 be2 : Backend)
    (on : Expr) (how : How) (hnd : ((cols1.map (·.2.1)) ++ (cols2.map (·.2.1))).Nodup) (needed : Needed) :
    compile (.join i (.source j1 n1 cols1 be1) (.source j2 n2 cols2 be2) on how) needed =
      .ok (⟨.join (.table n1 (cols1.map (·.2.1))) (.table n2 (cols2.map (·.2.1))) (Sql.inline (colDefs (cols1 ++ cols2)) on) how,
           { select := (cols1 ++ cols2).map (·.2.1), partitionBy := [] }, colDefs (cols1 ++ cols2)⟩,
           up (.join i (.source j1 n1 cols1 be1) (.source j2 n2 cols2 be2) on how)
             (down (.join i (.source j1 n1 cols1 be1) (.source j2 n2 cols2 be2) on how) needed)) := by
  have hmerge := colDefs_merge cols1 cols2 hnd
  unfold colDefs at hmerge
  cases how <;> simp [compile, bind, Except.bind, pure, Except.pure, hmerge, colDefs]

theorem join_source_inv (db : DB) (i j1 j2 : NodeId) (n1 n2 : String) (cols1 cols2 : List (String × Uid × Dtype)) (be1 be2 : Backend)
    (on : Expr) (how : How) (hnd : ((cols1.map (·.2.1)) ++ (cols2.map (·.2.1))).Nodup)
    (hon : isEwise on = true) (hou : ∀ u ∈ on.uids, u ∈ cols1.map (·.2.1) ++ cols2.map (·.2.1)) (needed : Needed) :
    ∃ r n', compile (.join i (.source j1 n1 cols1 be1) (.source j2 n2 cols2 be2) on how) needed = .ok (r, n') ∧
      Inv db (cols1.map (·.2.1) ++ cols2.map (·.2.1)) r (Spec.run db (.join i (.source j1 n1 cols1 be1) (.source j2 n2 cols2 be2) on how)) := by
  refine ⟨_, _, join_source_compile i j1 j2 n1 n2 cols1 cols2 be1 be2 on how hnd needed, ?_⟩
  rw [← List.map_append] at hnd hou ⊢
  have hmatch : ∀ rows : List Row, matchRows rows [Sql.inline (colDefs (cols1 ++ cols2)) on] = matchRows rows [on] := by
    intro rows
    rw [matchRows_ewise _ _ (by simp [isEwiseList, inline_ewise _ (colDefs_ewise _) on hon]), matchRows_ewise _ _ (by simp [isEwiseList, hon])]
    refine List.map_congr_left (fun b _ => ?_)
    rw [keeps_singleton, keeps_singleton,
      inline_eval _ b b (colDefs_agree _ b) on (fun u hu => by rw [Defs.get_isSome_iff, colDefs_keys]; exact hou u hu)]
  have hrows : (Spec.run db (.join i (.source j1 n1 cols1 be1) (.source j2 n2 cols2 be2) on how)).rows =
      evalSrc db (.join (.table n1 (cols1.map (·.2.1))) (.table n2 (cols2.map (·.2.1))) (Sql.inline (colDefs (cols1 ++ cols2)) on) how) := by
    rw [run_join, evalSrc_join, joinRows_congr hmatch]; rfl
  exact Inv.ofCols db _ (cols1 ++ cols2) hnd hrows (by rw [run_join, List.map_append]; rfl)
    (hrows ▸ List.map_append ▸ join_keys db _ _ _ how _ _ (table_keys db n1 _) (table_keys db n2 _))

/-- `t1 >> join(t2, on, how)` of two source tables with an element-wise condition, then the verbs of `C01.Frag`; the list is the scope -/
inductive JFrag : Ast → List Uid → Prop
  | join (i j1 j2 : NodeId) (n1 n2 : String) (cols1 cols2 : List (String × Uid × Dtype)) (be1 be2 : Backend) (on : Expr) (how : How) :
      ((cols1.map (·.2.1)) ++ (cols2.map (·.2.1))).Nodup → isEwise on = true →
      (∀ u ∈ on.uids, u ∈ cols1.map (·.2.1) ++ cols2.map (·.2.1)) →
      JFrag (.join i (.source j1 n1 cols1 be1) (.source j2 n2 cols2 be2) on how) (cols1.map (·.2.1) ++ cols2.map (·.2.1))
  | select {c sc} (i : NodeId) (cols : List (Uid × ColMeta)) : JFrag c sc →
      (∀ db, ∀ cu ∈ cols, ∃ e ∈ (Spec.run db c).visible, e.2 = cu.1) → JFrag (.select i c cols) sc
  | rename {c sc} (i : NodeId) (m : List (String × String)) : JFrag c sc → JFrag (.rename i c m) sc
  | filter {c sc} (i : NodeId) (preds : List Expr) : JFrag c sc → isEwiseList preds = true →
      (∀ u ∈ Expr.uidsList preds, u ∈ sc) → JFrag (.filter i c preds) sc
  | mutate {c sc} (i : NodeId) (L : List (String × Uid × Expr)) (metas : List (Dtype × Ftype)) : JFrag c sc →
      isEwiseList (L.map (·.2.2)) = true → (∀ u ∈ Expr.uidsList (L.map (·.2.2)), u ∈ sc) →
      (∀ t ∈ L, t.2.1 ∉ sc) → (L.map (·.2.1)).Nodup →
      JFrag (.mutate i c (L.map (·.1)) (L.map (·.2.2)) (L.map (·.2.1)) metas) (sc ++ L.map (·.2.1))

theorem JFrag.base {c : Ast} {sc : List Uid} (h : JFrag c sc) : Base c sc := by
  induction h with
  | join i j1 j2 n1 n2 cols1 cols2 be1 be2 on how hnd hon hou =>
    exact ⟨fun db => join_source_inv db i j1 j2 n1 n2 cols1 cols2 be1 be2 on how hnd hon hou,
      fun needed _ _ hc => by cases (join_source_compile i j1 j2 n1 n2 cols1 cols2 be1 be2 on how hnd needed).symm.trans hc; rfl,
      fun _ => by cases how <;> rfl⟩
  | select i cols _ hsel ih => exact ih.select i cols hsel
  | rename i m _ ih => exact ih.rename i m
  | filter i preds _ hp hu ih => exact ih.filter i preds hp hu
  | mutate i L metas _ hv hu hfresh hnd ih => exact ih.mutate i L metas hv hu hfresh hnd

theorem jfrag_refines {ast : Ast} {sc : List Uid} (h : JFrag ast sc) (db : DB) :
    ∀ needed, ∃ r n', compile ast needed = .ok (r, n') ∧ Inv db sc r (Spec.run db ast) := h.base.ref db

/-- **refinement for joins**: an inner, left or full join of two source tables followed by any row-level verbs compiles (to one
    SELECT over `t1 [LEFT | FULL] JOIN t2 ON …`, `join_source_compile`) and evaluates to the frame of the reference semantics, for
    every database and `needed_cols` state -/
theorem sql_refines_spec_join {ast : Ast} {sc : List Uid} (h : JFrag ast sc) (db : DB) (needed : Needed) :
    ∃ r n', compile ast needed = .ok (r, n') ∧ Sql.run db r = (Spec.run db ast).frame := by
  obtain ⟨r, n', hc, inv⟩ := jfrag_refines h db needed
  exact ⟨r, n', hc, inv_refines db sc r _ inv⟩

/-- non-vacuity: `t1 >> left_join(t2, t1.k == t2.k2) >> filter(t2.v.is_null()) >> mutate(w = t1.a + 1)` is such a pipeline -/
example : ∃ sc, JFrag
    (.mutate 5 (.filter 4 (.join 3 (.source 1 "t1" [("k", 10, .int64), ("a", 11, .int64)] .sqlite)
        (.source 2 "t2" [("k2", 20, .int64), ("v", 21, .int64)] .sqlite)
        (.fn "equal" [.col 10 .int64 .elementWise, .col 20 .int64 .elementWise] none []) .left)
      [.fn "is_null" [.col 21 .int64 .elementWise] none []])
      ["w"] [.fn "add" [.col 11 .int64 .elementWise, .lit (.int 1) .int64] none []] [30] [(.int64, .elementWise)]) sc := by
  refine ⟨_, JFrag.mutate 5 [("w", 30, _)] _ (JFrag.filter 4 _ (JFrag.join 3 1 2 "t1" "t2" _ _ .sqlite .sqlite _ .left ?_ ?_ ?_) ?_ ?_) ?_ ?_ ?_ ?_⟩
  all_goals first | decide +kernel | (intro t ht; simp at ht; subst ht; decide)

/-- `t1 JOIN t2 … >> group_by(k…) >> summarize(<any value expressions>)`, compiled to `C01.sumOut`
    (`SELECT k…, agg… FROM t1 JOIN t2 ON … WHERE … GROUP BY k…`), evaluates to the reference frame -/
theorem sql_refines_spec_join_grouped {c : Ast} {sc : List Uid} (h : JFrag c sc) (db : DB) (j i : NodeId)
    (K : List (Uid × ColMeta)) (hK : K ≠ []) (hKsc : ∀ cu ∈ K, cu.1 ∈ sc) (hKnc : ∀ cu ∈ K, cu.2.dtype.isConst = false)
    (hKnd : (K.map (·.1)).Nodup) (hKvis : ∀ cu ∈ K, ∃ e ∈ (Spec.run db c).visible, e.2 = cu.1)
    (L : List (String × Uid × Expr)) (metas : List (Dtype × Ftype))
    (hv : ∀ t ∈ L, ∀ u ∈ t.2.2.uids, u ∈ sc) (hfresh : ∀ t ∈ L, t.2.1 ∉ sc) (hnd : (L.map (·.2.1)).Nodup) (needed : Needed) :
    ∃ r n', compile (.summarize i (.groupBy j c K false) (L.map (·.1)) (L.map (·.2.2)) (L.map (·.2.1)) metas) needed = .ok (r, n') ∧
      Sql.run db r = (Spec.run db (.summarize i (.groupBy j c K false) (L.map (·.1)) (L.map (·.2.2)) (L.map (·.2.1)) metas)).frame :=
  sql_refines_spec_grouped_gen h.base db j i K hK hKsc hKnc hKnd hKvis L metas hv hfresh hnd needed

/-- the same for `t1 JOIN t2 … >> mutate(<window functions>)` -/
theorem sql_refines_spec_join_window {c : Ast} {sc : List Uid} (h : JFrag c sc) (db : DB) (i : NodeId)
    (L : List (String × Uid × Expr)) (metas : List (Dtype × Ftype))
    (hv : ∀ t ∈ L, ∀ u ∈ t.2.2.uids, u ∈ sc) (hna : ∀ t ∈ L, isAggQuery.aggNodes t.2.2 = false)
    (hfresh : ∀ t ∈ L, t.2.1 ∉ sc) (hnd : (L.map (·.2.1)).Nodup) (needed : Needed) :
    ∃ r n', compile (.mutate i c (L.map (·.1)) (L.map (·.2.2)) (L.map (·.2.1)) metas) needed = .ok (r, n') ∧
      Sql.run db r = (Spec.run db (.mutate i c (L.map (·.1)) (L.map (·.2.2)) (L.map (·.2.1)) metas)).frame :=
  sql_refines_spec_mutate_any h.base db i L metas hv hna hfresh hnd needed

/-- `t1 JOIN t2 … >> arrange(keys) >> slice_head(n, offset)`: `… ORDER BY keys LIMIT n OFFSET offset` returns the same rows
    in the same sequence as the reference semantics -/
theorem sql_refines_spec_join_ordered {c : Ast} {sc : List Uid} (h : JFrag c sc) (db : DB) (i k : NodeId) (ords : List Ord)
    (he : isEwiseOrds ords = true) (hu : ∀ u ∈ Expr.uidsList (ords.map (·.1)), u ∈ sc) (n off : Int) (needed : Needed) :
    ∃ r n', compile (.sliceHead k (.arrange i c ords) n off) needed = .ok (r, n') ∧
      Sql.run db r = (Spec.run db (.sliceHead k (.arrange i c ords) n off)).frame :=
  sql_refines_spec_ordered (OFrag.slice k n off (OFrag.arrange i ords h.base.ref he hu)) db needed

end Pdt.C06
