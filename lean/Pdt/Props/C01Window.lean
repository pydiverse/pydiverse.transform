/-
  C01 / C05: the non-vacuity example for `sql_refines_spec_mutate_any` (C01Gen.lean), the refinement for a final `mutate`
  with arbitrary window expressions, `SELECT …, <expr> OVER (PARTITION BY … ORDER BY …) … FROM t WHERE …`.
-/
import Pdt.Props.C01Gen

namespace Pdt.C01
open Pdt Pdt.Spec Pdt.Sql

theorem good_all_singletons (d : Defs) (f : Row → Row) (bs : List Row) (h : ∀ b ∈ bs, Agree d b (f b)) : Good d f (singletons bs) :=
  good_singletons d f bs h

/-- non-vacuity: `mutate(w = row_number(arrange=[t.a.descending().nulls_last()]), s = t.b.sum(partition_by=[t.a]) - t.b)`
    over scope `[10, 11]` meets the hypotheses -/
example :
    let w : Expr := .fn "row_number" [] none [(.col 10 .int64 .elementWise, true, some true)]
    let s : Expr := .fn "sub" [.fn "sum" [.col 11 .int64 .elementWise] (some [.col 10 .int64 .elementWise]) [], .col 11 .int64 .elementWise] none []
    isAggQuery.aggNodes w = false ∧ isAggQuery.aggNodes s = false ∧ (∀ u ∈ w.uids ++ s.uids, u ∈ [10, 11]) := by
  refine ⟨by decide +kernel, by decide +kernel, by decide +kernel⟩

end Pdt.C01
