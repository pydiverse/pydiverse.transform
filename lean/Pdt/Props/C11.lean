/-
  C11 — table metadata agrees with the exported frame (front-end half).

  * the metadata accumulated verb by verb equals the metadata recomputed from the whole pipeline
    (`finishVerb_cache_eq_fromAst`): every single-input verb funnels through `finishVerb`
    (= `modify_ast`: `check_subquery` then `Cache.update`);
  * what `columns()` reports after a verb, as a function of the verb's arguments: `mutate_columns`
    (an overwritten column moves to the end), `row_verbs_keep_columns`, `alias_columns`,
    `union_columns`; `select` and `rename` are in C11Frag.lean (`select_meta`, `rename_meta`).
  That the SQL compiler model emits exactly this list is `columns_eq_sql_labels` (C11Frag.lean, on
  the row-level fragment); on the real code, for both backends, it is the oracle of this
  property's check.
-/
import Pdt.Model.Verbs
import Pdt.Props.C08
import Pdt.Props.Lemmas.Dict

namespace Pdt.C11
open Pdt Cache

theorem fromAst_single (n c : Ast) (hc : n.child? = some c) (hs : C08.singleInput n = true) :
    Cache.fromAst n = (Cache.fromAst c).update n := by
  cases n with
  | source | join | union => cases hs
  | _ => cases hc; rfl

theorem setChild_child (n c : Ast) (hs : C08.singleInput n = true) : (n.setChild c).child? = some c := by
  cases n with
  | source | join | union => cases hs
  | _ => rfl

theorem mapRoots_child (f : Expr → Expr) (n : Ast) : (n.mapRoots f).child? = n.child? := by
  cases n <;> rfl

theorem mapColArgs_child (f : Uid × ColMeta → Uid × ColMeta) (n : Ast) : (n.mapColArgs f).child? = n.child? := by
  cases n <;> rfl

theorem mapRoots_single (f : Expr → Expr) (n : Ast) : C08.singleInput (n.mapRoots f) = C08.singleInput n := by
  cases n <;> rfl

theorem mapColArgs_single (f : Uid × ColMeta → Uid × ColMeta) (n : Ast) : C08.singleInput (n.mapColArgs f) = C08.singleInput n := by
  cases n <;> rfl

theorem setChild_single (n c : Ast) : C08.singleInput (n.setChild c) = C08.singleInput n := by
  cases n <;> rfl

theorem checkSubquery_shape (newAst : Ast) (child : Tbl) (mk : NodeId)
    (hs : C08.singleInput newAst = true) (hchild : newAst.child? = some child.ast)
    (hinv : child.cache = Cache.fromAst child.ast)
    (r : Ast × Tbl × Bool) (h : checkSubquery newAst child false mk = .ok r) :
    r.1.child? = some r.2.1.ast ∧ r.2.1.cache = Cache.fromAst r.2.1.ast ∧ C08.singleInput r.1 = true := by
  unfold checkSubquery at h
  split at h
  · cases h
    exact ⟨hchild, hinv, hs⟩
  · rename_i reason hreq
    revert h
    generalize hpre : preorder child.ast = pre
    -- generalise over the accumulated chain
    suffices hgen : ∀ (pre : List Ast) (chain : List Ast) (r : Ast × Tbl × Bool),
        checkSubquery.search newAst false mk (false && (match newAst with | .union .. => true | _ => false)) chain pre = .ok r →
        r.1.child? = some r.2.1.ast ∧ r.2.1.cache = Cache.fromAst r.2.1.ast ∧ C08.singleInput r.1 = true by
      intro h
      exact hgen pre [] r (by simpa using h)
    intro pre
    induction pre with
    | nil => intro chain r h; simp [checkSubquery.search] at h
    | cons nd rest ih =>
      intro chain r h
      unfold checkSubquery.search at h
      split at h
      · split at h
        · simp at h
        · rw [if_neg (by simp)] at h
          simp only [Bool.false_eq_true, ↓reduceIte] at h
          split at h
          · simp at h
          · cases h
            refine ⟨?_, rfl, ?_⟩
            · rw [mapColArgs_child, mapRoots_child]
              exact setChild_child _ _ hs
            · rw [mapColArgs_single, mapRoots_single, setChild_single]; exact hs
      · simp at h
      · simp at h
      · exact ih _ r h

/-- **accumulated = recomputed**: if the input table's metadata is what `Cache.from_ast` computes for
    its AST, so is the metadata of the table any single-input verb returns -/
theorem finishVerb_cache_eq_fromAst (env : Env) (newAst : Ast) (t : Tbl)
    (hs : C08.singleInput newAst = true) (hchild : newAst.child? = some t.ast)
    (hinv : t.cache = Cache.fromAst t.ast) (r : Tbl) (env' : Env)
    (h : finishVerb env newAst t = .ok (r, env')) :
    r.cache = Cache.fromAst r.ast := by
  unfold finishVerb at h
  simp only at h
  split at h
  · simp at h
  · rename_i ast1 child1 flag hcs
    cases h
    have hshape := checkSubquery_shape newAst t _ hs hchild hinv (ast1, child1, flag) hcs
    simp only at hshape
    rw [fromAst_single ast1 child1.ast hshape.1 hshape.2.2, ← hshape.2.1]

theorem columns_def (c : Cache) : c.columns = c.nameToUuid.map (·.1) := rfl

theorem row_verbs_keep_columns (c : Cache) (n : Ast)
    (h : match n with
      | .filter .. | .arrange .. | .sliceHead .. | .groupBy .. | .ungroup .. | .alias _ _ none _ | .subqueryMarker .. => True
      | _ => False) :
    (c.update n).columns = c.columns := by
  cases n with
  | filter | arrange | sliceHead | groupBy | ungroup | subqueryMarker => rfl
  | alias _ _ m _ =>
    cases m with
    | none => rfl
    | some _ => cases h
  | _ => cases h

theorem dictOf_keys_nodup {α β} [BEq α] [LawfulBEq α] (l : List (α × β)) (h : (l.map (·.1)).Nodup) : dictOf l = l :=
  Cache.dictOf_keys_nodup l h

/-- an overwritten name moves to the end -/
theorem mutate_columns (c : Cache) (i : NodeId) (ch : Ast) (names : List String) (vals : List Expr)
    (uuids : List Uid) (metas : List (Dtype × Ftype))
    (hold : (c.nameToUuid.map (·.1)).Nodup) (hnew : names.Nodup) (hlen : names.length = uuids.length) :
    (c.update (.mutate i ch names vals uuids metas)).columns =
      (c.columns.filter (fun n => !names.contains n)) ++ names := by
  have hkeys : (((c.nameToUuid.filter (fun e => !names.contains e.1)) ++ names.zip uuids).map (·.1)).Nodup := by
    rw [List.map_append, List.nodup_append]
    refine ⟨?_, ?_, ?_⟩
    · exact (List.Nodup.sublist (List.Sublist.map _ (List.filter_sublist)) hold)
    · rw [List.map_fst_zip (by omega)]; exact hnew
    · intro a ha b hb hab
      rw [List.map_fst_zip (by omega)] at hb
      simp only [List.mem_map, List.mem_filter] at ha
      obtain ⟨e, ⟨_, hne⟩, rfl⟩ := ha
      subst hab
      simp_all
  simp only [Cache.update, Cache.columns, dictUnion]
  rw [dictOf_keys_nodup _ hkeys, List.map_append, List.map_fst_zip (by omega)]
  congr 1
  induction c.nameToUuid with
  | nil => rfl
  | cons e t ih => simp only [List.filter_cons, List.map_cons]; split <;> simp_all

theorem alias_columns (c : Cache) (i : NodeId) (ch : Ast) (m : Option (List (Uid × Uid))) (nm : String)
    (hold : (c.nameToUuid.map (·.1)).Nodup) :
    (c.update (.alias i ch m nm)).columns = c.columns := by
  cases m with
  | none => simp [Cache.update, Cache.columns]
  | some mp =>
    simp only [Cache.update, Cache.columns]
    rw [dictOf_keys_nodup]
    · simp [List.map_map, Function.comp_def]
    · simpa [List.map_map, Function.comp_def] using hold

theorem union_columns (c r : Cache) (i : NodeId) (ch rt : Ast) (d : Bool) :
    (c.update (.union i ch rt d) (some r)).columns = c.columns := by
  simp [Cache.update, Cache.columns]

end Pdt.C11
