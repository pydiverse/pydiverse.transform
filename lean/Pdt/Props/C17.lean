/-
  C17 — casts follow the documented conversion table.

  `docCast` transcribes the table of the `ColExpr.cast` docstring together with the conversions
  the property statement lists; acceptance by the type checker (`accepts`, the test of `Cast.dtype`:
  implicit conversion or `Cast.is_valid_cast`, the latter regenerated from the source on every run)
  is compared with it over the whole type universe by the kernel.
-/
import Std.Data.String.ToInt
import Pdt.Model.Typing
import Pdt.Model.Ops
import Pdt.Props.Lemmas.Lists

namespace Pdt.C17
open Pdt

def isStrSrc (d : Dtype) : Bool := match d with | .string _ => true | .enum _ => true | _ => false
def isEnumT (d : Dtype) : Bool := match d with | .enum _ => true | _ => false
def sizedInt (d : Dtype) : Bool := d.isInt && d != .int
/-- concrete float targets (the generic `Float` is reached by implicit conversion only; a
    decimal target is castable in its default form `Decimal()` only) -/
def floatTarget (d : Dtype) : Bool := d == .float32 || d == .float64 || d == .decimal 31 11

def docCast (s t : Dtype) : Bool :=
  (s.isFloat && sizedInt t) ||
  (isStrSrc s && (sizedInt t || floatTarget t || isEnumT t)) ||
  ((s.isInt || s.isFloat) && t == .string none) ||
  (s.isInt && sizedInt t) || (s.isFloat && floatTarget t) ||
  (s.isInt && floatTarget t) ||
  (s == .bool && (sizedInt t || floatTarget t)) ||
  (s == .datetime && t == .date) || (s == .date && t == .datetime) ||
  ((s == .datetime || s == .date) && t == .string none)

def accepts (s t : Dtype) : Bool := convertsTo s t || isValidCast s t

def U : List Dtype := Gen.baseUniverse

def castTargets (s : Dtype) : List Dtype := (Gen.validCasts.filter (·.1 == s)).map (·.2)

/-- `accepts` with the cast relation read by rows: the row of a source does not mention the
    target, so the kernel reduces it once per source instead of scanning the whole relation for
    every pair -/
def acceptsByRow (s t : Dtype) : Bool :=
  convertsTo s t ||
    (let s' := match s.withoutConst with
      | .string _ => .string none
      | .decimal _ _ => .decimal 31 11
      | d => d
     (match s', t with
      | .string _, .enum _ => true
      | _, _ => false) || (castTargets s').contains t)

theorem accepts_eq (s t : Dtype) : accepts s t = acceptsByRow s t := by
  unfold accepts isValidCast acceptsByRow castTargets
  simp only [contains_pair]
  rfl

theorem withoutConst_of_not_const (s : Dtype) (h : s.isConst = false) : s.withoutConst = s := by
  cases s with
  | const b => exact absurd h (by simp [Dtype.isConst])
  | _ => rfl

theorem const_source (s t : Dtype) (hs : s.isConst = false) (ht : t.isConst = false) :
    accepts (.const s) t = accepts s t ∧ convertsTo (.const s) t = convertsTo s t := by
  have hw := withoutConst_of_not_const s hs
  have hcs : (Dtype.const s).withoutConst = s := rfl
  have hc : convertsTo (.const s) t = convertsTo s t := by
    cases t with
    | const b => exact absurd ht (by simp [Dtype.isConst])
    | _ => simp only [convertsTo, hcs, hw]
  refine ⟨?_, hc⟩
  unfold accepts isValidCast
  rw [hc, hcs, hw]

theorem acceptsByRow_table :
    U.all (fun s => U.all (fun t => acceptsByRow s t == (docCast s t || convertsTo s t))) = true := by
  decide +kernel

theorem U_not_const : U.all (fun d => !d.isConst) = true := by decide +kernel

/-- **acceptance = documented table ∪ implicit conversions**, on the whole universe, for column
    and for constant sources -/
theorem cast_acceptance :
    U.all (fun s => U.all (fun t =>
      accepts s t == (docCast s t || convertsTo s t) &&
      accepts (.const s) t == (docCast s t || convertsTo (.const s) t))) = true := by
  have hU := List.all_eq_true.1 U_not_const
  simp only [List.all_eq_true]
  intro s hs t ht
  obtain ⟨h1, h2⟩ := const_source s t (by simpa using hU s hs) (by simpa using hU t ht)
  rw [h1, h2, Bool.and_self, accepts_eq]
  exact List.all_eq_true.1 (List.all_eq_true.1 acceptsByRow_table s hs) t ht

/-- everything else is rejected when the expression is built, with `DataTypeError` -/
theorem cast_rejected_at_construction (e : Expr) (src t : Dtype) (he : typeOf e = .ok src)
    (ht : t.isConst = false) (hno : accepts src t = false) :
    typeOf (.cast e t) = .error .dataType := by
  unfold accepts at hno
  simp only [typeOf, he, ht, Bool.false_eq_true, ↓reduceIte, hno]

theorem cast_accepted_type (e : Expr) (src t : Dtype) (he : typeOf e = .ok src)
    (ht : t.isConst = false) (hyes : accepts src t = true) :
    typeOf (.cast e t) = .ok (if src.isConst then t.withConst else t) := by
  unfold accepts at hyes
  simp only [typeOf, he, ht, Bool.false_eq_true, ↓reduceIte, hyes]

theorem cast_to_const_rejected (e : Expr) (src b : Dtype) (he : typeOf e = .ok src) :
    typeOf (.cast e (.const b)) = .error .type := by
  simp [typeOf, he, Dtype.isConst]

theorem null_stays_null (t : Dtype) : Ops.castVal .null t = .null := by simp [Ops.castVal]

theorem bool_to_int (b : Bool) : Ops.castVal (.bool b) .int64 = .int (if b then 1 else 0) := by
  simp [Ops.castVal, Dtype.withoutConst, Dtype.isInt, Dtype.isIntSub]

theorem int_to_string (i : Int) : Ops.castVal (.int i) (.string none) = .str (toString i) := by
  simp [Ops.castVal, Dtype.withoutConst, Dtype.isFloat, Dtype.isStringLike]

/-- int → string → int is the identity.  Only the canonical text: `String.toInt?` does not reduce in
    the kernel, so numerals with sign and leading zeros are left to the O9 value grid. -/
theorem parse_int_roundtrip (i : Int) :
    Ops.castVal (Ops.castVal (.int i) (.string none)) .int64 = .int i := by
  rw [int_to_string]
  simp only [Ops.castVal, Dtype.withoutConst, Dtype.isInt, Dtype.isIntSub, ↓reduceIte, Int.toString_eq_repr,
    Int.toInt?_repr]

example : accepts .float64 .int8 = true ∧ accepts .bool .date = false ∧ accepts (.string none) .datetime = false := by decide +kernel

end Pdt.C17
