/-
  C09, the scope after `summarize`: only grouping columns and the new aggregate columns are in
  scope; a reference to any other column of the input is rejected with ColumnNotFoundError (never
  resolved to some other column).
-/
import Pdt.Props.C09
import Pdt.Props.C16

namespace Pdt.C09
open Pdt Pdt.Cache

theorem summarize_scope (c : Cache) (i : NodeId) (ch : Ast) (names : List String) (vals : List Expr) (uuids : List Uid)
    (metas : List (Dtype × Ftype)) (u : Uid)
    (h : ((c.update (.summarize i ch names vals uuids metas)).col? u).isSome = true) :
    u ∈ c.partitionBy ∨ u ∈ uuids := by
  have hu : u ∈ (c.update (.summarize i ch names vals uuids metas)).cols.map (·.1) := by
    rwa [Cache.col?, Option.isSome_map, find_key_isSome_iff] at h
  simp only [Cache.update] at hu
  rw [dictOf_keys, List.map_map] at hu
  obtain ⟨x, hx, hxu⟩ := List.mem_map.1 hu
  have hxmem := Cache.mem_of_mem_dictOf hx
  simp only [List.mem_map, List.mem_append, List.mem_filterMap] at hxmem
  obtain ⟨y, hy, hyx⟩ := hxmem
  simp only [Function.comp_apply] at hxu
  rcases hy with ⟨p, hp, hpy⟩ | ⟨nvu, hnvu, hy2⟩
  · left
    split at hpy
    · split at hpy
      · simp at hpy
      · simp only [Option.some.injEq] at hpy
        rw [← hxu, ← hyx, ← hpy]
        exact hp
    · simp at hpy
  · right
    rw [← hxu, ← hyx, ← hy2]
    have := List.of_mem_zip hnvu
    exact (List.of_mem_zip this.2).2

theorem dropped_ref_rejected (env : Env) (t : Tbl) (c : Cache) (i : NodeId) (ch : Ast) (names : List String) (vals : List Expr)
    (uuids : List Uid) (metas : List (Dtype × Ftype)) (aiw : Bool) (tv name : String) (src : Tbl) (u : Uid) (dt : Dtype) (ft : Ftype)
    (ht : t.cache = c.update (.summarize i ch names vals uuids metas))
    (hsrc : env.table? tv = some src) (hcol : src.colByName name = .ok (.col u dt ft))
    (hu1 : u ∉ c.partitionBy) (hu2 : u ∉ uuids) :
    resolveExpr env t aiw (.tcol tv name) = .error .columnNotFound := by
  apply C16.origin_ref_rejected env t aiw tv name src u dt ft hsrc hcol
  cases hc : t.cache.col? u with
  | none => rfl
  | some m =>
    exfalso
    have := summarize_scope c i ch names vals uuids metas u (by rw [← ht, hc]; rfl)
    rcases this with h | h
    · exact hu1 h
    · exact hu2 h

end Pdt.C09
