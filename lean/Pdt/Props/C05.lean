/-
  C05 — arrange orders stably; window functions see the right rows in the right order.
-/
import Pdt.Props.Lemmas.Sort
import Pdt.Props.Lemmas.Rows
import Pdt.Model.Verbs
import Pdt.Props.Lemmas.Partition
import Pdt.Props.Lemmas.Lists
import Pdt.Props.Lemmas.KeyOrder
import Pdt.Props.C02

namespace Pdt.C05
open Pdt Pdt.Spec

/-! ### the key comparison honours `descending`, `nulls_first`, `nulls_last`, priority -/

def swapOrd : Ordering → Ordering | .lt => .gt | .gt => .lt | .eq => .eq

theorem cmpKey_descending (nl : Option Bool) (a b : Val) (ha : a.isNull = false) (hb : b.isNull = false) :
    cmpKey true nl a b = swapOrd (cmpKey false nl a b) := by
  unfold cmpKey
  simp only [ha, hb]
  cases Ops.cmpVal a b with
  | none => rfl
  | some o => cases o <;> rfl

/-- `descending` never moves the nulls: their place is given by `nulls_last` / `nulls_first` alone -/
theorem cmpKey_null_left (d : Bool) (nl : Option Bool) (b : Val) (hb : b.isNull = false) :
    cmpKey d nl .null b = if nl == some true then .gt else .lt := by
  cases b <;> simp_all [cmpKey, Val.isNull]

theorem cmpKey_null_right (d : Bool) (nl : Option Bool) (a : Val) (ha : a.isNull = false) :
    cmpKey d nl a .null = if nl == some true then .lt else .gt := by
  cases a <;> simp_all [cmpKey, Val.isNull]

theorem cmpKey_null_null (d : Bool) (nl : Option Bool) : cmpKey d nl .null .null = .eq := by
  simp [cmpKey, Val.isNull]

theorem cmpKeys_priority (d : Bool) (n : Option Bool) (ks : List (Bool × Option Bool)) (a b : Val) (as bs : List Val) :
    cmpKeys ((d, n) :: ks) (a :: as) (b :: bs) = (cmpKey d n a b).then (cmpKeys ks as bs) := by
  simp only [cmpKeys]
  cases cmpKey d n a b <;> rfl

/-! ### the `arrange` verb -/

/-- `sortIdx` and `cmpIdx` name the local `let idx` of `sortRows` and the comparison it sorts by -/
def sortIdx (rows : List Row) (ords : List Ord) : List Nat :=
  let keys := transpose (evalOrds (singletons rows) ords) rows.length
  let spec := ords.map (fun o => (o.2.1, o.2.2))
  stableSort (fun i j => cmpKeys spec (keys.getD i []) (keys.getD j [])) (List.range rows.length)

def cmpIdx (rows : List Row) (ords : List Ord) (i j : Nat) : Ordering :=
  let keys := transpose (evalOrds (singletons rows) ords) rows.length
  cmpKeys (ords.map (fun o => (o.2.1, o.2.2))) (keys.getD i []) (keys.getD j [])

theorem sortRows_eq (rows : List Row) (ords : List Ord) :
    sortRows rows ords = (sortIdx rows ords).map (fun i => rows.getD i []) := rfl

theorem sortIdx_eq (rows : List Row) (ords : List Ord) :
    sortIdx rows ords = stableSort (cmpIdx rows ords) (List.range rows.length) := rfl

/-- `arrange` neither drops, duplicates nor changes rows -/
theorem arrange_perm (db : DB) (i : NodeId) (c : Ast) (ords : List Ord) :
    (run db (.arrange i c ords)).rows.Perm (run db c).rows := by
  rw [run_arrange, sortRows_eq, sortIdx_eq]
  have h := (stableSort_perm (cmpIdx (run db c).rows ords) (List.range (run db c).rows.length)).map
    (fun i => (run db c).rows.getD i [])
  exact h.trans (.of_eq (range_getD _ []))

theorem arrange_keeps_columns (db : DB) (i : NodeId) (c : Ast) (ords : List Ord) :
    (run db (.arrange i c ords)).visible = (run db c).visible ∧ (run db (.arrange i c ords)).group = (run db c).group :=
  ⟨rfl, rfl⟩

/-- the result is sorted by the key tuples whenever the key comparison is a total preorder
    (it is for keys of one type family: `arrange_sorted_typed` below) -/
theorem arrange_sorted (rows : List Row) (ords : List Ord)
    (htot : ∀ a b, cmpIdx rows ords a b = .gt → cmpIdx rows ords b a ≠ .gt)
    (htrans : ∀ a b c, cmpIdx rows ords a b ≠ .gt → cmpIdx rows ords b c ≠ .gt → cmpIdx rows ords a c ≠ .gt) :
    (sortIdx rows ords).Pairwise (fun a b => cmpIdx rows ords a b ≠ .gt) := by
  rw [sortIdx_eq]
  exact stableSort_pairwise _ htot htrans _

def keyRow (rows : List Row) (ords : List Ord) (i : Nat) : List Val :=
  (transpose (evalOrds (singletons rows) ords) rows.length).getD i []

/-- **`arrange` sorts**: when every key column holds values of one family (integers, strings or booleans)
    and nulls, the result is in key order, for every combination of `descending`, `nulls_first`,
    `nulls_last` markers and every number of keys -/
theorem arrange_sorted_typed (rows : List Row) (ords : List Ord) (fams : List KFam) (hlen : ords.length = fams.length)
    (hfit : ∀ i, i < rows.length → fits fams (keyRow rows ords i)) :
    (sortIdx rows ords).Pairwise (fun a b => cmpIdx rows ords a b ≠ .gt) := by
  rw [sortIdx_eq]
  have hspec : (ords.map (fun o => (o.2.1, o.2.2))).length = fams.length := by simpa using hlen
  apply stableSort_pairwise_on (cmpIdx rows ords) (fun i => i < rows.length)
  · intro a b ha hb h
    exact cmpKeys_total fams _ _ _ hspec (hfit a ha) (hfit b hb) h
  · intro a b c ha hb hc h1 h2
    exact cmpKeys_trans fams _ _ _ _ hspec (hfit a ha) (hfit b hb) (hfit c hc) h1 h2
  · intro y hy; simpa using hy

/-- `fits`: an integer and a string key column, a null in either -/
example : fits [.int, .str] [.null, .str "a"] ∧ fits [.int, .str] [.int 3, .null] := by
  simp [fits, KFam.mem, intFam, strFam]

theorem pair_sublist_range (i j n : Nat) (hij : i < j) (hj : j < n) : [i, j].Sublist (List.range n) := by
  have h1 : (List.range (j + 1)).Sublist (List.range n) := List.range_sublist.2 (by omega)
  refine List.Sublist.trans ?_ h1
  rw [List.range_succ]
  have : [i].Sublist (List.range j) := List.singleton_sublist.2 (List.mem_range.2 hij)
  exact List.Sublist.append this (List.Sublist.refl [j])

/-- stability: two rows that the keys do not put strictly out of order keep their relative order, so the
    order an earlier `arrange` left breaks the ties of a later one -/
theorem arrange_stable (rows : List Row) (ords : List Ord) (i j : Nat) (hij : i < j) (hj : j < rows.length)
    (htie : cmpIdx rows ords i j ≠ .gt) :
    [rows.getD i [], rows.getD j []].Sublist (sortRows rows ords) := by
  rw [sortRows_eq, sortIdx_eq]
  have := stableSort_stable (cmpIdx rows ords) (List.range rows.length) i j (pair_sublist_range i j _ hij hj) htie
  exact this.map (fun i => rows.getD i [])

theorem arrange_sorted_id (rows : List Row) (ords : List Ord)
    (h : (List.range rows.length).Pairwise (fun a b => cmpIdx rows ords a b ≠ .gt)) : sortRows rows ords = rows := by
  rw [sortRows_eq, sortIdx_eq, stableSort_sorted_id _ _ h]
  exact range_getD rows []

theorem arrange_no_keys (rows : List Row) : sortRows rows [] = rows :=
  arrange_sorted_id rows [] (List.pairwise_of_forall_mem_list (fun _ _ _ _ => by simp [cmpIdx, cmpKeys]))

/-- row-preserving verbs behind an `arrange` keep its order -/
theorem slice_after_arrange (db : DB) (i j : NodeId) (c : Ast) (ords : List Ord) (n off : Int) :
    (run db (.sliceHead j (.arrange i c ords) n off)).rows = ((sortRows (run db c).rows ords).drop off.toNat).take n.toNat :=
  rfl

theorem select_rename_keep_order (db : DB) (i j k : NodeId) (c : Ast) (ords : List Ord) (cols : List (Uid × ColMeta))
    (m : List (String × String)) :
    (run db (.rename k (.select j (.arrange i c ords) cols) m)).rows = sortRows (run db c).rows ords :=
  rfl

theorem filter_keeps_order (db : DB) (i j : NodeId) (c : Ast) (ords : List Ord) (preds : List Expr) :
    (run db (.filter j (.arrange i c ords) preds)).rows.Sublist (sortRows (run db c).rows ords) :=
  C02.filter_sublist _ preds

/-! ### window functions: one value per row, rows neither dropped nor reordered -/

theorem evalUnits_length (units : List Unit') : ∀ (e : Expr), (evalUnits units e).length = units.length
  | .col .. => by simp [evalUnits]
  | .lit .. => by simp [evalUnits]
  | .cast e _ => by simp [evalUnits, evalUnits_length units e]
  | .case _ none => by simp [evalUnits]
  | .case _ (some _) => by simp [evalUnits]
  | .fn op args part arr => by
      simp only [evalUnits]
      split
      · simp [transpose]
      · split <;> simp

/-- a `mutate` with window functions (any expressions) keeps every row, in order, with all its old values -/
theorem window_mutate_keeps_rows (db : DB) (i : NodeId) (c : Ast) (names : List String) (vals : List Expr)
    (uuids : List Uid) (metas : List (Dtype × Ftype)) :
    (run db (.mutate i c names vals uuids metas)).rows.length = (run db c).rows.length ∧
    ∀ k (hk : k < (run db c).rows.length), ∃ ext,
      (run db (.mutate i c names vals uuids metas)).rows.getD k [] = (run db c).rows.getD k [] ++ ext :=
  ⟨C02.mutate_length db i c names vals uuids metas, fun k hk => ⟨_, C02.mutate_new_column db i c names vals uuids metas k hk⟩⟩

/-- `row_number` numbers the rows of a partition 1, 2, … along the `arrange=` order -/
theorem row_number_spec (argCols : List (List Val)) (ordered : List Nat) (keysOf : Nat → List Val)
    (spec : List (Bool × Option Bool)) :
    windowOp "row_number" argCols ordered keysOf spec = ordered.zipIdx.map (fun (i, k) => (i, Val.int (k + 1))) := rfl

/-- `rank` = 1 + number of rows of the partition ordered strictly before the row (ties share a rank) -/
theorem rank_spec (argCols : List (List Val)) (ordered : List Nat) (keysOf : Nat → List Val)
    (spec : List (Bool × Option Bool)) :
    windowOp "rank" argCols ordered keysOf spec =
      ordered.map (fun i => (i, Val.int ((ordered.filter (fun j => cmpKeys spec (keysOf j) (keysOf i) == .lt)).length + 1))) := rfl

/-- `sum` used as a window function gives every row of the partition the partition's sum (the other
    aggregates take the same arm of `windowOp`) -/
theorem window_agg_spec (argCols : List (List Val)) (ordered : List Nat) (keysOf : Nat → List Val)
    (spec : List (Bool × Option Bool)) :
    windowOp "sum" argCols ordered keysOf spec =
      ordered.map (fun i => (i, Ops.agg "sum" (ordered.map (fun i => (argCols.headD []).getD i .null)))) := by
  simp [windowOp]

/-- each listed window operator (`cum_sum` is not among them) returns one value per row of the partition,
    for exactly those rows -/
theorem windowOp_rows (op : String) (argCols : List (List Val)) (ordered : List Nat) (keysOf : Nat → List Val)
    (spec : List (Bool × Option Bool)) (h : op ∈ ["row_number", "rank", "dense_rank", "shift", "sum", "min", "max", "mean", "count", "count_star", "any", "all"]) :
    (windowOp op argCols ordered keysOf spec).map (·.1) = ordered := by
  simp only [List.mem_cons, List.mem_nil_iff, or_false] at h
  rcases h with h | h | h | h | h | h | h | h | h | h | h | h <;> subst h <;>
    simp [windowOp, List.map_map, Function.comp_def, List.zipIdx_map_fst]

/-- window functions are evaluated per partition: every row is in exactly one partition (the partitions,
    concatenated, are a permutation of the row positions), no partition is empty … -/
theorem partitions_cover_rows (partKeys : List (List Val)) :
    (partitionIdx partKeys).flatten.Perm (List.range partKeys.length) ∧ ∀ g ∈ partitionIdx partKeys, g ≠ [] :=
  ⟨partitionIdx_perm partKeys, partitionIdx_nonempty partKeys⟩

/-- … and a partition holds exactly the rows that carry its `partition_by` values (null is a value of
    its own); different partitions have different values -/
theorem partition_is_key_class (partKeys : List (List Val)) (g : Grp) (hg : g ∈ partitionGroups partKeys) (i : Nat) :
    (i ∈ g.2 ↔ partKeys[i]? = some g.1) ∧ ((partitionGroups partKeys).map (·.1)).Nodup :=
  ⟨partition_members partKeys g hg i, partition_keys_nodup partKeys⟩

/-- `preprocess_arg` with `agg_is_window` (the way `mutate` calls it) writes the grouping columns into
    `partition_by` of an aggregate / window function that has neither `partition_by=` nor `filter=` -/
theorem implicit_partition (env : Env) (t : Tbl) (op : String) (args : List SExpr)
    (arr : List (SExpr × Option Bool × Option Bool)) (r : Expr)
    (hop : (opFtype op != .elementWise) = true)
    (h : resolveExpr env t true (.fn op args none arr []) = .ok r) :
    ∃ a rr, r = .fn op a (some (t.cache.partitionBy.filterMap (fun u =>
                        (t.cache.col? u).map (fun m => Expr.col u m.dtype m.ftype)))) rr := by
  -- without `filter=` and `partition_by=` the node is rebuilt under the same operator; `hop` selects the implicit partition
  simp only [resolveExpr, resolveOptList, resolveList, boolAndAll, hop, Bool.true_and, if_true] at h
  -- every way out but the last is an error
  split at h
  · cases h
  · split at h
    · cases h
    · split at h
      · cases h
      · split at h
        · cases h
        · exact ⟨_, _, (Except.ok.inj h).symm⟩

/-- `group_by(g) >> mutate(..) >> ungroup()` computes the rows of the same `mutate` without the
    grouping verbs: the grouping state reaches a window function only through the `partition_by` that
    `preprocess_arg` writes into the expression (`implicit_partition`) -/
theorem group_mutate_ungroup_rows (db : DB) (i j k : NodeId) (c : Ast) (g : List (Uid × ColMeta)) (add : Bool)
    (names : List String) (vals : List Expr) (uuids : List Uid) (metas : List (Dtype × Ftype)) :
    (run db (.ungroup k (.mutate j (.groupBy i c g add) names vals uuids metas))).rows =
      (run db (.mutate j c names vals uuids metas)).rows ∧
    (run db (.ungroup k (.mutate j (.groupBy i c g add) names vals uuids metas))).visible =
      (run db (.mutate j c names vals uuids metas)).visible :=
  ⟨rfl, rfl⟩

end Pdt.C05
