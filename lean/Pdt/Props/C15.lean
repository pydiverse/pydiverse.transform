/-
  C15 — equivalent pipelines give identical results (in the reference semantics).
-/
import Pdt.Props.Lemmas.Rows
import Pdt.Props.C06
import Pdt.Props.C03
import Pdt.Props.Lemmas.Run
import Pdt.Props.Lemmas.Lists

namespace Pdt.C15
open Pdt Pdt.Spec Pdt.Ops

theorem stbl_eq (s t : STbl) (h1 : s.rows = t.rows) (h2 : s.visible = t.visible) (h3 : s.group = t.group) : s = t := by
  cases s; cases t; simp_all

theorem take_drop_chain {α} (l : List α) (a n b m : Nat) :
    (((l.drop a).take n).drop b).take m = (l.drop (a + b)).take (min m (n - b)) := by
  rw [List.drop_take, List.drop_drop, List.take_take]

/-- a chain of two `slice_head` is the single slice the SQL compiler puts into LIMIT / OFFSET: length
    `max(min(n1 - o2, n2), 0)`, offset `o1 + o2` (natural-number subtraction truncates at 0) -/
theorem slice_chain (db : DB) (i j k : NodeId) (c : Ast) (n1 o1 n2 o2 : Int) :
    (run db (.sliceHead j (.sliceHead i c n1 o1) n2 o2)).rows =
      (run db (.sliceHead k c (Int.ofNat (min n2.toNat (n1.toNat - o2.toNat))) (Int.ofNat (o1.toNat + o2.toNat)))).rows := by
  simp only [run_sliceHead, Int.toNat_natCast, Int.ofNat_eq_natCast]
  exact take_drop_chain _ _ _ _ _

/-- `filter(p…) >> filter(q…)` keeps the rows of `filter(p…, q…)` -/
theorem filter_split (db : DB) (i j k : NodeId) (c : Ast) (p q : List Expr)
    (hp : isEwiseList p = true) (hq : isEwiseList q = true) :
    (run db (.filter j (.filter i c p) q)).rows = (run db (.filter k c (p ++ q))).rows := by
  rw [run_filter, run_filter, run_filter, filterRows_filterRows _ p q hp hq,
    filterRows_ewise _ (p ++ q) (by rw [isEwiseList_append, hp, hq]; rfl)]
  exact List.filter_congr (fun r _ => (keeps_append p q r).symm)

/-- `mutate(a = ea, b = eb)` and `mutate(a = ea) >> mutate(b = eb)` produce the same rows when `eb`
    only uses columns the input already has (it cannot see the new column `a` in the single call) -/
theorem mutate_split_rows (db : DB) (i j k : NodeId) (c : Ast) (na nb : String) (ea eb : Expr) (ua ub : Uid)
    (ma mb : Dtype × Ftype)
    (ha : isEwise ea = true) (hb : isEwise eb = true)
    (hcols : ∀ r ∈ (run db c).rows, ∀ u ∈ eb.uids, (r.find? (·.1 == u)).isSome = true) :
    (run db (.mutate j (.mutate i c [na] [ea] [ua] [ma]) [nb] [eb] [ub] [mb])).rows =
      (run db (.mutate k c [na, nb] [ea, eb] [ua, ub] [ma, mb])).rows := by
  simp only [run_mutate]
  rw [mutate_rows_ewise _ [ub] [eb] ((isEwiseList_singleton eb).trans hb),
    mutate_rows_ewise _ [ua] [ea] ((isEwiseList_singleton ea).trans ha),
    mutate_rows_ewise _ [ua, ub] [ea, eb] (by simp [isEwiseList, ha, hb]), List.map_map]
  apply List.map_congr_left
  intro r hr
  simp only [Function.comp_apply, List.map_cons, List.map_nil, List.zip_cons_cons, List.zip_nil_right, List.append_assoc,
    List.cons_append, List.nil_append]
  -- both sides are `r ++ [(ua, …)] ++ [(ub, …)]`; on the left `eb` is evaluated on `r ++ [(ua, …)]`
  rw [evalRow_append r _ eb (hcols r hr)]

theorem mutate_split_visible (db : DB) (i j k : NodeId) (c : Ast) (na nb : String) (ea eb : Expr) (ua ub : Uid)
    (ma mb : Dtype × Ftype) (hne : na ≠ nb) :
    (run db (.mutate j (.mutate i c [na] [ea] [ua] [ma]) [nb] [eb] [ub] [mb])).visible =
      (run db (.mutate k c [na, nb] [ea, eb] [ua, ub] [ma, mb])).visible := by
  simp only [run_mutate, List.zip_cons_cons, List.zip_nil_right, List.filter_append, List.filter_filter]
  have h1 : ([(na, ua)] : List (String × Uid)).filter (fun e => !([nb] : List String).contains e.1) = [(na, ua)] := by
    simp [hne]
  rw [h1, List.append_assoc]
  congr 1
  apply List.filter_congr
  intro e _
  simp [Bool.and_comm]

theorem rename_visible (db : DB) (i : NodeId) (c : Ast) (m : List (String × String)) :
    (run db (.rename i c m)).visible = (run db c).visible.map (fun e => (renameName m e.1, e.2)) :=
  rfl

/-- `rename({a: b}) >> rename({b: a})` changes nothing when no visible column is called `b` -/
theorem rename_inverse (db : DB) (i j : NodeId) (c : Ast) (a b : String)
    (hb : ∀ e ∈ (run db c).visible, e.1 ≠ b ∨ a = b) :
    (run db (.rename j (.rename i c [(a, b)]) [(b, a)])).visible = (run db c).visible ∧
    (run db (.rename j (.rename i c [(a, b)]) [(b, a)])).rows = (run db c).rows := by
  refine ⟨?_, rfl⟩
  rw [rename_visible, rename_visible, List.map_map]
  conv => rhs; rw [← List.map_id (run db c).visible]
  refine List.map_congr_left (fun e he => Prod.ext ?_ rfl)
  show renameName [(b, a)] (renameName [(a, b)] e.1) = e.1
  rw [renameName_single a b, renameName_single b a]
  by_cases h1 : e.1 = a
  · rw [if_pos h1, if_pos rfl, h1]
  · rw [if_neg h1]
    rcases hb e he with h2 | h2
    · exact if_neg h2
    · exact if_neg (h2 ▸ h1)

/-- a `select` of all visible columns in their order leaves `visible` as it is -/
theorem select_visible_filter (db : DB) (i : NodeId) (c : Ast) (cols : List (Uid × ColMeta))
    (h : cols.map (·.1) = ((run db c).visible.map (·.2))) (hnd : ((run db c).visible.map (·.2)).Nodup) :
    (run db (.select i c cols)).visible = (run db c).visible := by
  rw [run_select]
  show cols.filterMap ((fun u => (run db c).visible.find? (·.2 == u)) ∘ (·.1)) = _
  rw [← List.filterMap_map, h, List.filterMap_map,
    filterMap_eq_map_of_mem _ id _ (fun _ he => find_of_mem_nodup (·.2) hnd he), List.map_id]

theorem inner_eq_cross_filter (db : DB) (i j k : NodeId) (c r : Ast) (on : Expr) (h : isEwise on = true) :
    (run db (.filter j (.join i c r (.lit (.bool true) .bool) .inner) [on])).rows = (run db (.join k c r on .inner)).rows := by
  show filterRows (run db (.join i c r (.lit (.bool true) .bool) .inner)).rows [on] = _
  rw [C06.cross_join_rows, C06.inner_join_rows db k c r on h, filterRows_ewise _ [on] ((isEwiseList_singleton on).trans h)]
  simp only [C06.matchedPairs, List.filter_map]
  rfl

theorem is_in_is_or_chain (x a b : Val) : ew "is_in" [x, a, b] = ew "bool_or" [ew "equal" [x, a], ew "equal" [x, b]] :=
  C03.is_in_two x a b

end Pdt.C15
