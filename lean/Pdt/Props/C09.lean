/-
  C09 — column references denote columns, not names (front-end half).

  A `Col` object carries a UUID; resolution against a table looks only at that UUID
  (`preprocess_arg`), while `C.name` looks up the *current* name.  Here: the verbs of `keepsScope`,
  `mutate`, and a join for its left input keep every in-scope UUID in scope with unchanged metadata,
  whatever happens to the names.  That a UUID outside the scope is rejected, never re-bound, is
  `C16.origin_ref_rejected` and `dropped_ref_rejected` (C09Scope.lean).
  (That the backends then read the data of exactly that UUID is part of the refinement theorems.)
-/
import Pdt.Model.Verbs
import Pdt.Props.Lemmas.Dict

namespace Pdt.C09
open Pdt Cache

def keepsScope : Ast → Bool
  | .select .. | .rename .. | .filter .. | .arrange .. | .sliceHead .. | .groupBy .. | .ungroup ..
  | .alias _ _ none _ => true
  | _ => false

theorem scope_unchanged (c : Cache) (n : Ast) (h : keepsScope n = true) : (c.update n).cols = c.cols := by
  cases n with
  | select | rename | filter | arrange | sliceHead | groupBy | ungroup => rfl
  | alias _ _ m _ =>
    cases m with
    | none => rfl
    | some _ => cases h
  | _ => cases h

theorem ref_survives (c : Cache) (n : Ast) (h : keepsScope n = true) (u : Uid) (m : ColMeta)
    (hu : c.col? u = some m) : (c.update n).col? u = some m := by
  unfold Cache.col? at *
  rw [scope_unchanged c n h]; exact hu

theorem lookup_dictUnion_left {β} (a b : List (Uid × β)) (hnd : ((a ++ b).map (·.1)).Nodup) (u : Uid) (m : β)
    (h : (a.find? (·.1 == u)).map (·.2) = some m) : ((dictUnion a b).find? (·.1 == u)).map (·.2) = some m := by
  rw [dictUnion, dictOf_keys_nodup _ hnd, List.find?_append]
  cases hf : a.find? (·.1 == u) with
  | none => rw [hf] at h; cases h
  | some e => rw [hf] at h; exact h

/-- also when a new column takes over the name of `u`.  `hnd` is over the `newCols` term of
    `Cache.update`: the UUIDs of the new columns are fresh (and all keys distinct). -/
theorem ref_survives_mutate (c : Cache) (i : NodeId) (ch : Ast) (names : List String) (vals : List Expr)
    (uuids : List Uid) (metas : List (Dtype × Ftype)) (u : Uid) (m : ColMeta)
    (hu : c.col? u = some m)
    (hnd : ((c.cols ++ (names.zip (metas.zip uuids)).map (fun nvu => (nvu.2.2, (⟨nvu.1, nvu.2.1.1, nvu.2.1.2⟩ : ColMeta)))).map (·.1)).Nodup) :
    (c.update (.mutate i ch names vals uuids metas)).col? u = some m :=
  lookup_dictUnion_left _ _ hnd u m hu

theorem ref_survives_join_left (c r : Cache) (i : NodeId) (ch rt : Ast) (on : Expr) (how : How) (u : Uid) (m : ColMeta)
    (hu : c.col? u = some m) (hnd : ((c.cols ++ r.cols).map (·.1)).Nodup) :
    (c.update (.join i ch rt on how) (some r)).col? u = some m :=
  lookup_dictUnion_left _ _ hnd u m hu

/-- `t.x` resolves through the UUID it was created with: the names in the table the verb is
    applied to play no part -/
theorem tcol_resolves_by_identity (env : Env) (t t' : Tbl) (aiw : Bool) (tv name : String)
    (hscope : t.cache.cols = t'.cache.cols) :
    resolveExpr env t aiw (.tcol tv name) = resolveExpr env t' aiw (.tcol tv name) := by
  simp only [resolveExpr, Cache.col?, hscope]

/-- `C.x` resolves through the current name ↦ UUID map of the table the verb is applied to -/
theorem cname_resolves_by_name (env : Env) (t : Tbl) (aiw : Bool) (name : String) (u : Uid) (m : ColMeta)
    (hn : t.cache.lookupName name = some u) (hc : t.cache.col? u = some m) :
    resolveExpr env t aiw (.cname name) = .ok (.col u m.dtype m.ftype) := by
  simp [resolveExpr, Tbl.colByName, hn, hc]

theorem cname_unknown_rejected (env : Env) (t : Tbl) (aiw : Bool) (name : String)
    (hn : t.cache.lookupName name = none) :
    resolveExpr env t aiw (.cname name) = .error .columnNotFound := by
  simp [resolveExpr, Tbl.colByName, hn]

end Pdt.C09
