/-
  C01, `group_by(k₁ … kₘ) >> summarize(n₁ = agg₁(e₁), …)` of plain aggregates over element-wise arguments on top of any
  `Base` pipeline: `SELECT k…, agg(e)… FROM t WHERE … GROUP BY k…` evaluates to the frame of the reference semantics:
  one row per distinct key tuple (nulls form a group of their own), groups in order of first appearance.
  The instance of `sql_refines_spec_grouped_gen` (C01Gen.lean) for such values.
-/
import Pdt.Props.C01Agg

namespace Pdt.C01
open Pdt Pdt.Spec Pdt.Sql

/-- **refinement for a grouped summarize of plain aggregates** over any `Base`; keys non-constant, distinct and visible -/
theorem sql_refines_spec_grouped {c : Ast} {sc : List Uid} (h : Base c sc) (db : DB) (j i : NodeId)
    (K : List (Uid × ColMeta)) (hK : K ≠ []) (hKsc : ∀ cu ∈ K, cu.1 ∈ sc) (hKnc : ∀ cu ∈ K, cu.2.dtype.isConst = false)
    (hKnd : (K.map (·.1)).Nodup) (hKvis : ∀ cu ∈ K, ∃ e ∈ (Spec.run db c).visible, e.2 = cu.1)
    (L : List (String × Uid × Expr)) (metas : List (Dtype × Ftype))
    (hv : ∀ t ∈ L, SimpleAgg sc t.2.2) (hfresh : ∀ t ∈ L, t.2.1 ∉ sc) (hnd : (L.map (·.2.1)).Nodup) (needed : Needed) :
    ∃ r n', compile (.summarize i (.groupBy j c K false) (L.map (·.1)) (L.map (·.2.2)) (L.map (·.2.1)) metas) needed = .ok (r, n') ∧
      Sql.run db r = (Spec.run db (.summarize i (.groupBy j c K false) (L.map (·.1)) (L.map (·.2.2)) (L.map (·.2.1)) metas)).frame :=
  sql_refines_spec_grouped_gen h db j i K hK hKsc hKnc hKnd hKvis L metas (fun t ht u hu => by
    obtain ⟨op, args, hx, _, _, hsc⟩ := hv t ht
    exact hsc u (by rw [hx] at hu; simpa [Expr.uids, Expr.uidsOptList, Expr.uidsOrds] using hu)) hfresh hnd needed

/-- non-vacuity: `t >> filter(t.a > 0) >> group_by(t.a) >> summarize(s = t.b.sum(), n = count())` meets the hypotheses -/
example (db : DB) : ∃ sc, Frag (.filter 2 (.source 1 "t" [("a", 10, .int64), ("b", 11, .int64)] .sqlite)
      [.fn "greater_than" [.col 10 .int64 .elementWise, .lit (.int 0) .int64] none []]) sc ∧
    (∀ cu ∈ [((10 : Uid), (⟨"a", .int64, .elementWise⟩ : ColMeta))], cu.1 ∈ sc ∧ cu.2.dtype.isConst = false ∧
      ∃ e ∈ (Spec.run db (.filter 2 (.source 1 "t" [("a", 10, .int64), ("b", 11, .int64)] .sqlite)
        [.fn "greater_than" [.col 10 .int64 .elementWise, .lit (.int 0) .int64] none []])).visible, e.2 = cu.1) ∧
    (∀ t ∈ [("s", 12, Expr.fn "sum" [.col 11 .int64 .elementWise] none []), ("n", 13, Expr.fn "count_star" [] none [])],
      SimpleAgg sc t.2.2 ∧ t.2.1 ∉ sc) := by
  refine ⟨_, Frag.filter 2 _ (Frag.source 1 "t" _ .sqlite (by decide)) (by decide +kernel) (by decide), ?_, ?_⟩
  · intro cu hcu
    simp only [List.mem_cons, List.not_mem_nil, or_false] at hcu
    subst hcu
    exact ⟨by decide, by decide, ("a", 10), List.mem_cons_self, rfl⟩
  · intro t ht
    simp only [List.mem_cons, List.not_mem_nil, or_false] at ht
    rcases ht with rfl | rfl
    · exact ⟨⟨"sum", _, rfl, by decide +kernel, by decide +kernel, by decide⟩, by decide⟩
    · exact ⟨⟨"count_star", _, rfl, by decide +kernel, by decide +kernel, by decide⟩, by decide⟩

end Pdt.C01
