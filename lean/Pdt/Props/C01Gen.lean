/-
  C01, `summarize` (ungrouped and grouped) and a final `mutate` with window functions, for *arbitrary* value expressions,
  on top of any base pipeline with the row-level invariant (`Base`).  The three cases differ only in the units the
  SELECT evaluates its select list over (all passing rows / the key groups / every row on its own); what they share is
  proved once (`Inv.passing_ext`, `new_cols_frame`).  `summarize_out` / `grouped_out` / `window_out` also say what the
  compiler returned (`sumOut`, `mutOut`) and that its select list is the list of visible identities, which is what C08
  needs to wrap the result into a subquery.
-/
import Pdt.Props.C01Ord
import Pdt.Props.Lemmas.InlineUnits
import Pdt.Props.Lemmas.Partition

namespace Pdt.C01
open Pdt Pdt.Spec Pdt.Sql

/-! ### base pipelines -/

/-- what the summarize / window theorems need of the pipeline below: `Refines`, and no grouping state, neither on the compiler
    side nor in the reference semantics.  Given by `Frag.base` and, for joins of source tables followed by row-level verbs, by
    `C06.JFrag.base`. -/
structure Base (c : Ast) (sc : List Uid) : Prop where
  ref : ∀ (db : DB) (needed : Needed), ∃ r n', compile c needed = .ok (r, n') ∧ Inv db sc r (Spec.run db c)
  pb : ∀ needed r n', compile c needed = .ok (r, n') → r.query.partitionBy = []
  gr : ∀ db : DB, (Spec.run db c).group = []

section
variable {c : Ast} {sc : List Uid} (h : Base c sc) (i : NodeId)
include h

theorem Base.select (cols : List (Uid × ColMeta)) (hsel : ∀ db, ∀ cu ∈ cols, ∃ e ∈ (Spec.run db c).visible, e.2 = cu.1) :
    Base (.select i c cols) sc :=
  ⟨fun db => select_inv db sc i c cols (hsel db) (h.ref db), step_partitionBy_nil rfl rfl (by intros; nofun) h.pb, h.gr⟩

theorem Base.rename (m : List (String × String)) : Base (.rename i c m) sc :=
  ⟨fun db => rename_inv db sc i c m (h.ref db), step_partitionBy_nil rfl rfl (by intros; nofun) h.pb, h.gr⟩

theorem Base.filter (preds : List Expr) (hp : isEwiseList preds = true) (hu : ∀ u ∈ Expr.uidsList preds, u ∈ sc) :
    Base (.filter i c preds) sc :=
  ⟨fun db => filter_inv db sc i c preds hp hu (h.ref db), step_partitionBy_nil rfl rfl (by intros; nofun) h.pb, h.gr⟩

theorem Base.mutate (L : List (String × Uid × Expr)) (metas : List (Dtype × Ftype))
    (hv : isEwiseList (L.map (·.2.2)) = true) (hu : ∀ u ∈ Expr.uidsList (L.map (·.2.2)), u ∈ sc)
    (hfresh : ∀ t ∈ L, t.2.1 ∉ sc) (hnd : (L.map (·.2.1)).Nodup) :
    Base (.mutate i c (L.map (·.1)) (L.map (·.2.2)) (L.map (·.2.1)) metas) (sc ++ L.map (·.2.1)) :=
  ⟨fun db => mutate_inv db sc i c L metas hv hu hfresh hnd (h.ref db), step_partitionBy_nil rfl rfl (by intros; nofun) h.pb, h.gr⟩

end

theorem Frag.base {c : Ast} {sc : List Uid} (h : Frag c sc) : Base c sc := by
  induction h with
  | source i name cols be hnd =>
    exact ⟨fun db => source_inv db i name cols be hnd, fun _ _ _ hc => by cases compile_source.symm.trans hc; rfl, fun _ => rfl⟩
  | select i cols _ hsel ih => exact ih.select i cols hsel
  | rename i m _ ih => exact ih.rename i m
  | filter i preds _ hp hu ih => exact ih.filter i preds hp hu
  | mutate i L metas _ hv hu hfresh hnd ih => exact ih.mutate i L metas hv hu hfresh hnd

/-! ### the SELECT without HAVING / ORDER BY / LIMIT, by the kind of its units -/

theorem evalSelect_ungrouped_agg (base : List Row) (q : Query) (defs : Defs)
    (hg : q.groupBy = []) (hh : q.having = []) (ho : q.orderBy = []) (hl : q.limit = none) (hagg : isAggQuery q defs = true) :
    evalSelect base q defs =
      [q.select.zip (q.select.map (fun u =>
        (evalUnits [filterRows base (q.where_.map (Sql.inline defs))] (Sql.inline defs (.col u .null .elementWise))).getD 0 .null))] := by
  unfold evalSelect
  simp [hagg, hg, hh, ho, hl, cutIdx, List.range_succ]
  rfl

theorem evalSelect_grouped (base : List Row) (q : Query) (defs : Defs)
    (hg : q.groupBy ≠ []) (hh : q.having = []) (ho : q.orderBy = []) (hl : q.limit = none) :
    evalSelect base q defs =
      let filtered := filterRows base (q.where_.map (Sql.inline defs))
      let keys := transpose (q.groupBy.map (fun u => evalCol filtered (Sql.inline defs (.col u .null .elementWise)))) filtered.length
      let units : List Unit' := (partitionIdx keys).map (fun g => g.map (fun i => filtered.getD i []))
      (List.range units.length).map (fun i => q.select.zip (q.select.map (fun u =>
        (evalUnits units (Sql.inline defs (.col u .null .elementWise))).getD i .null))) := by
  unfold evalSelect
  simp only [isAggQuery_of_groupBy defs hg, List.isEmpty_eq_false_iff.2 hg, hh, ho, hl, cutIdx, List.map_nil, List.all_nil,
    List.isEmpty_nil, Bool.false_eq_true, ↓reduceIte, zip_range_filter_true, List.map_map]
  rfl

theorem evalSelect_rows (base : List Row) (q : Query) (defs : Defs)
    (hagg : isAggQuery q defs = false) (hh : q.having = []) (ho : q.orderBy = []) (hl : q.limit = none) :
    evalSelect base q defs =
      let filtered := filterRows base (q.where_.map (Sql.inline defs))
      (List.range filtered.length).map (fun i => q.select.zip (q.select.map (fun u =>
        (evalUnits (singletons filtered) (Sql.inline defs (.col u .null .elementWise))).getD i .null))) := by
  rw [evalSelect_rowwise base q defs hagg hh]
  simp only [ho, hl, ordSpec, List.map_nil, sortIdxOf_nil_spec, cutIdx, transpose, List.length_map, List.length_range, singletons]

/-! ### inlining depends only on the definitions of the identities that occur -/

theorem inline_congr (d d2 : Defs) : ∀ (e : Expr), (∀ u ∈ e.uids, d2.get u = d.get u) → Sql.inline d2 e = Sql.inline d e :=
  fun e h => inline_congr_expr d d2 e (fun u hu => congrArg _ (h u hu))

theorem inline_congr_list (d d2 : Defs) : ∀ (l : List Expr), (∀ u ∈ Expr.uidsList l, d2.get u = d.get u) → inlineList d2 l = inlineList d l :=
  fun l h => inlineList_congr_expr d d2 l (fun u hu => congrArg _ (h u hu))

theorem inline_congr_opt (d d2 : Defs) : ∀ (l : Option (List Expr)), (∀ u ∈ Expr.uidsOptList l, d2.get u = d.get u) → inlineOpt d2 l = inlineOpt d l :=
  fun l h => inlineOpt_congr_expr d d2 l (fun u hu => congrArg _ (h u hu))

theorem inline_congr_ords (d d2 : Defs) : ∀ (l : List (Expr × Bool × Option Bool)), (∀ u ∈ Expr.uidsOrds l, d2.get u = d.get u) →
    inlineOrds d2 l = inlineOrds d l :=
  fun l h => inlineOrds_congr_expr d d2 l (fun u hu => congrArg _ (h u hu))

theorem inline_congr_branches (d d2 : Defs) : ∀ (l : List (Expr × Expr)), (∀ u ∈ Expr.uidsBranches l, d2.get u = d.get u) →
    inlineBranches d2 l = inlineBranches d l :=
  fun l h => inlineBranches_congr_expr d d2 l (fun u hu => congrArg _ (h u hu))

theorem inline_congr_map (d d2 : Defs) (W : List Expr) (h : ∀ u ∈ Expr.uidsList W, d2.get u = d.get u) :
    W.map (Sql.inline d2) = W.map (Sql.inline d) :=
  List.map_congr_left (fun _ hp => inline_congr d d2 _ (fun u hu => h u (Expr.mem_uidsList hp hu)))

/-! ### aggregate nodes survive inlining (the definitions themselves are element-wise) -/

-- `mutual`, not `Expr.ind`: the statements follow the recursion of `inline` and of `aggWindowNodes`, one `simp only` per case
mutual
theorem aggNodes_inline (d : Defs) (hd : DefsEwise d) : ∀ (e : Expr),
    Cache.aggWindowNodes (Sql.inline d e) = (Cache.aggWindowNodes e).map (Sql.inline d)
  | .col u dt ft => by
      simp only [Sql.inline]
      cases hg : d.get u with
      | none => simp [Cache.aggWindowNodes]
      | some p =>
        obtain ⟨n, x⟩ := p
        simp [Cache.aggWindowNodes, ewise_no_agg x (hd u n x hg)]
  | .lit v t => by simp [Sql.inline, Cache.aggWindowNodes]
  | .cast e t => by simp only [Sql.inline, Cache.aggWindowNodes, aggNodes_inline d hd e]
  | .fn op args part arr => by
      simp only [Sql.inline, Cache.aggWindowNodes, aggNodes_inline_list d hd args, aggNodes_inline_opt d hd part,
        aggNodes_inline_ords d hd arr, List.map_append]
      split <;> simp [Sql.inline]
  | .case bs none => by
      simp only [Sql.inline, Cache.aggWindowNodes, aggNodes_inline_branches d hd bs, List.map_append, List.map_nil]
  | .case bs (some x) => by
      simp only [Sql.inline, Cache.aggWindowNodes, aggNodes_inline_branches d hd bs, aggNodes_inline d hd x, List.map_append]
theorem aggNodes_inline_list (d : Defs) (hd : DefsEwise d) : ∀ (l : List Expr),
    Cache.aggWindowNodesList (inlineList d l) = (Cache.aggWindowNodesList l).map (Sql.inline d)
  | [] => by simp [inlineList, Cache.aggWindowNodesList]
  | e :: es => by simp only [inlineList, Cache.aggWindowNodesList, aggNodes_inline d hd e, aggNodes_inline_list d hd es, List.map_append]
theorem aggNodes_inline_opt (d : Defs) (hd : DefsEwise d) : ∀ (l : Option (List Expr)),
    Cache.aggWindowNodesOpt (inlineOpt d l) = (Cache.aggWindowNodesOpt l).map (Sql.inline d)
  | none => by simp [inlineOpt, Cache.aggWindowNodesOpt]
  | some l => by simp only [inlineOpt, Cache.aggWindowNodesOpt, aggNodes_inline_list d hd l]
theorem aggNodes_inline_ords (d : Defs) (hd : DefsEwise d) : ∀ (l : List (Expr × Bool × Option Bool)),
    Cache.aggWindowNodesOrds (inlineOrds d l) = (Cache.aggWindowNodesOrds l).map (Sql.inline d)
  | [] => by simp [inlineOrds, Cache.aggWindowNodesOrds]
  | (e, x) :: es => by simp only [inlineOrds, Cache.aggWindowNodesOrds, aggNodes_inline d hd e, aggNodes_inline_ords d hd es, List.map_append]
theorem aggNodes_inline_branches (d : Defs) (hd : DefsEwise d) : ∀ (l : List (Expr × Expr)),
    Cache.aggWindowNodesBranches (inlineBranches d l) = (Cache.aggWindowNodesBranches l).map (Sql.inline d)
  | [] => by simp [inlineBranches, Cache.aggWindowNodesBranches]
  | (c, v) :: bs => by
      simp only [inlineBranches, Cache.aggWindowNodesBranches, aggNodes_inline d hd c, aggNodes_inline d hd v,
        aggNodes_inline_branches d hd bs, List.map_append]
end

theorem plainAgg_inline (d : Defs) (hd : DefsEwise d) (n : Expr) :
    (match Sql.inline d n with | .fn op _ part _ => isPlainAgg op part | _ => false) =
    (match n with | .fn op _ part _ => isPlainAgg op part | _ => false) := by
  cases n with
  | col u dt ft =>
    simp only [Sql.inline]
    cases hg : d.get u with
    | none => rfl
    | some p =>
      obtain ⟨nm, x⟩ := p
      have hx := hd u nm x hg
      cases x with
      | fn op a part arr =>
        simp only [isEwise, Bool.and_eq_true, beq_iff_eq] at hx
        simp [isPlainAgg, hx.1.1.1]
      | _ => rfl
  | lit v t => rfl
  | cast e t => rfl
  | fn op a part arr => simp [Sql.inline, isPlainAgg, inlineOpt_isNone]
  | case bs dflt => cases dflt <;> rfl

theorem aggNodes_eq (d : Defs) (hd : DefsEwise d) (e : Expr) : isAggQuery.aggNodes (Sql.inline d e) = isAggQuery.aggNodes e := by
  unfold isAggQuery.aggNodes
  rw [aggNodes_inline d hd e, List.any_map]
  congr 1
  funext n
  exact plainAgg_inline d hd n

/-! ### expressions without a column reference outside a plain aggregate: units may be empty -/

theorem inline_units_bf (d : Defs) (hd : DefsEwise d) (f : Row → Row) : ∀ (e : Expr) (us : List Unit'), Good0 d f us → bareFree e = true →
    Covers d e.uids → evalUnits us (Sql.inline d e) = evalUnits (us.map (fun un => un.map f)) e :=
  fun e us hg hb hc => inline_units_gen d hd f e hc us hg (Or.inl hb)

theorem inline_units_bf_list (d : Defs) (hd : DefsEwise d) (f : Row → Row) : ∀ (l : List Expr) (us : List Unit'), Good0 d f us →
    bareFreeList l = true → Covers d (Expr.uidsList l) → evalList us (inlineList d l) = evalList (us.map (fun un => un.map f)) l :=
  fun l us hg hb hc => evalList_inline (fun a ha => inline_units_bf d hd f a us hg ((bareFreeList_iff l).1 hb a ha)
    (fun u hu => hc u (Expr.mem_uidsList ha hu)))

theorem inline_units_bf_opt (d : Defs) (hd : DefsEwise d) (f : Row → Row) : ∀ (l : Option (List Expr)) (us : List Unit'), Good0 d f us →
    bareFreeOpt l = true → Covers d (Expr.uidsOptList l) → evalOptList us (inlineOpt d l) = evalOptList (us.map (fun un => un.map f)) l
  | none, _, _, _, _ => rfl
  | some l, us, hg, hb, hc => inline_units_bf_list d hd f l us hg hb hc

theorem inline_units_bf_ords (d : Defs) (hd : DefsEwise d) (f : Row → Row) : ∀ (l : List (Expr × Bool × Option Bool)) (us : List Unit'), Good0 d f us →
    bareFreeOrds l = true → Covers d (Expr.uidsOrds l) → evalOrds us (inlineOrds d l) = evalOrds (us.map (fun un => un.map f)) l :=
  fun l us hg hb hc => evalOrds_inline (fun o ho => inline_units_bf d hd f o.1 us hg ((bareFreeOrds_iff l).1 hb o ho)
    (fun u hu => hc u (Expr.mem_uidsOrds ho hu)))

theorem inline_units_bf_conds (d : Defs) (hd : DefsEwise d) (f : Row → Row) : ∀ (bs : List (Expr × Expr)) (us : List Unit'), Good0 d f us →
    bareFreeBranches bs = true → Covers d (Expr.uidsBranches bs) →
    evalBranchConds us (inlineBranches d bs) = evalBranchConds (us.map (fun un => un.map f)) bs :=
  fun bs us hg hb hc => evalBranchConds_inline (fun b hm => inline_units_bf d hd f b.1 us hg ((bareFreeBranches_iff bs).1 hb b hm).1
    (fun u hu => hc u (Expr.mem_uidsBranches_cond hm hu)))

theorem inline_units_bf_vals (d : Defs) (hd : DefsEwise d) (f : Row → Row) : ∀ (bs : List (Expr × Expr)) (us : List Unit'), Good0 d f us →
    bareFreeBranches bs = true → Covers d (Expr.uidsBranches bs) →
    evalBranchVals us (inlineBranches d bs) = evalBranchVals (us.map (fun un => un.map f)) bs :=
  fun bs us hg hb hc => evalBranchVals_inline (fun b hm => inline_units_bf d hd f b.2 us hg ((bareFreeBranches_iff bs).1 hb b hm).2
    (fun u hu => hc u (Expr.mem_uidsBranches_val hm hu)))

/-! ### new columns on top of the invariant: definitions, WHERE, labels and values -/

section ext
variable {db : DB} {sc : List Uid} {r : Compiled} {t : STbl} (inv : Inv db sc r t) (L : List (String × Uid × Expr))
include inv

/-- WHERE does not read the new definitions: it hands out the passing FROM rows `bs`, with `t.rows = bs.map f` -/
theorem Inv.passing_ext : ∃ (f : Row → Row) (bs : List Row),
    filterRows (evalSrc db r.src) (r.query.where_.map (Sql.inline (r.defs ++ newDefs r.defs L))) = bs ∧ t.rows = bs.map f ∧
    (∀ b ∈ bs, Agree r.defs b (f b)) ∧ (∀ b ∈ bs, ∀ e ∈ f b, e.1 ∈ sc) := by
  obtain ⟨f, h1, h2, h3⟩ := inv.hrows
  have hmem : ∀ b ∈ (evalSrc db r.src).filter (fun b => keeps r.query.where_ (f b)), b ∈ evalSrc db r.src :=
    fun b hb => (List.mem_filter.1 hb).1
  refine ⟨f, _, ?_, h1, fun b hb => h2 b (hmem b hb), fun b hb => h3 b (hmem b hb)⟩
  rw [inline_congr_map r.defs _ _ (fun u hu => get_old inv.hkeys (inv.hw.2 u hu)),
    filterRows_inline _ _ inv.hd _ inv.hw.1 (inv.covers inv.hw.2) f h2]

theorem inline_col_old {u : Uid} (hu : u ∈ sc) (dt : Dtype) (ft : Ftype) :
    Sql.inline (r.defs ++ newDefs r.defs L) (.col u dt ft) = Sql.inline r.defs (.col u dt ft) :=
  inline_congr _ _ _ (fun v hv => by rw [Expr.uids, List.mem_singleton] at hv; exact hv ▸ get_old inv.hkeys hu)

theorem ext_no_agg (hna : ∀ t ∈ L, isAggQuery.aggNodes t.2.2 = false) (u : Uid) (p : String × Expr)
    (hp : Defs.get (r.defs ++ newDefs r.defs L) u = some p) : isAggQuery.aggNodes p.2 = false := by
  rcases get_cases inv.hkeys hp with ⟨_, hp⟩ | ⟨x, hx, _, rfl⟩
  · exact defsEwise_not_agg r.defs inv.hd u p hp
  · exact (aggNodes_eq r.defs inv.hd _).trans (hna x hx)

variable {L} (hL : NewCols sc L)
include hL

theorem inline_col_new {x : String × Uid × Expr} (hx : x ∈ L) (dt : Dtype) (ft : Ftype) :
    Sql.inline (r.defs ++ newDefs r.defs L) (.col x.2.1 dt ft) = Sql.inline r.defs x.2.2 := by
  simp only [Sql.inline, get_new inv.hkeys hL hx]

/-- **labels and values of the SELECT with the new columns**, for `mutate` and `summarize` alike.  The SELECT evaluates its
    entries over units `us` of FROM rows and returns `n` rows.  The reference table `t'` has the form `Spec.run` gives both verbs:
    it shows the columns of `keep` not overwritten by name, then the new ones, and its row `k` is an old part `o k` over the scope,
    then the new columns evaluated over units `us'`.  If the new values evaluate over `us` as the originals do over `us'` (`hval`)
    and the kept columns to what `o k` holds (`hold`), then `S` is the list of visible identities, and labels and values of the
    SELECT are the frame of `t'`. -/
theorem new_cols_frame (us us' : List Unit') (hval : ∀ x ∈ L, evalUnits us (Sql.inline r.defs x.2.2) = evalUnits us' x.2.2)
    {keep : List (String × Uid)} {n : Nat} {o : Nat → Row} {g : List Uid} {t' : STbl}
    (ht' : t' = ⟨(List.range n).map (fun k =>
        o k ++ ((L.map (·.2.1)).zip ((L.map (·.2.2)).map (evalUnits us'))).map (fun uc => (uc.1, uc.2.getD k .null))),
      keep.filter (fun e => !(L.map (·.1)).contains e.1) ++ L.map (fun x => (x.1, x.2.1)), g⟩)
    (hkeep : ∀ e ∈ keep, e.2 ∈ sc ∧ r.defs.name e.2 = e.1) (ho : ∀ k < n, ∀ e ∈ o k, e.1 ∈ sc)
    (hold : ∀ k < n, ∀ e ∈ keep, (evalUnits us (Sql.inline r.defs (.col e.2 .null .elementWise))).getD k .null = (o k).get e.2)
    {S : List Uid} (hS : S = (keep.filter (fun e => !(L.map (·.1)).contains e.1) ++ L.map (fun x => (x.1, x.2.1))).map (·.2)) :
    S = t'.visible.map (·.2) ∧
    (S.map (Defs.name (r.defs ++ newDefs r.defs L)), (List.range n).map (fun k => S.map (fun u =>
      (evalUnits us (Sql.inline (r.defs ++ newDefs r.defs L) (.col u .null .elementWise))).getD k .null))) = t'.frame := by
  have hnew : ∀ k, ((L.map (·.2.1)).zip ((L.map (·.2.2)).map (evalUnits us'))).map (fun uc => (uc.1, uc.2.getD k .null)) =
      L.map (fun x => (x.2.1, (evalUnits us' x.2.2).getD k .null)) := fun k => by
    rw [List.map_map, List.zip_map', List.map_map]; rfl
  have hcol : ∀ e ∈ keep.filter (fun e => !(L.map (·.1)).contains e.1) ++ L.map (fun x => (x.1, x.2.1)),
      Defs.name (r.defs ++ newDefs r.defs L) e.2 = e.1 ∧ ∀ k < n,
        (evalUnits us (Sql.inline (r.defs ++ newDefs r.defs L) (.col e.2 .null .elementWise))).getD k .null =
          Row.get (o k ++ L.map (fun x => (x.2.1, (evalUnits us' x.2.2).getD k .null))) e.2 := by
    intro e he
    rcases List.mem_append.1 he with he | he
    · obtain ⟨hsc, hnm⟩ := hkeep e (List.mem_filter.1 he).1
      refine ⟨(name_old inv.hkeys hsc).trans hnm, fun k hk => ?_⟩
      rw [inline_col_old inv L hsc, hold k hk e (List.mem_filter.1 he).1, ext_get_old hL (o k) _ hsc]
    · obtain ⟨x, hx, rfl⟩ := List.mem_map.1 he
      refine ⟨name_new inv.hkeys hL hx, fun k hk => ?_⟩
      rw [inline_col_new inv hL hx, hval x hx, ext_get_new hL (o k) (ho k hk) _ hx]
  subst ht' hS
  refine ⟨rfl, ?_⟩
  refine Prod.ext (List.map_map.trans (List.map_congr_left (fun e he => (hcol e he).1)))
    ((List.map_congr_left (fun k hk => ?_)).trans List.map_map.symm)
  rw [Function.comp_apply, hnew, List.map_map]
  exact List.map_congr_left (fun e he => (hcol e he).2 k (List.mem_range.1 hk))

end ext

theorem key_inline_units (d : Defs) (hd : DefsEwise d) (f : Row → Row) (us : List Unit')
    (hag : ∀ un ∈ us, Agree d (firstRow un) (f (firstRow un))) (u : Uid) (hc : (d.get u).isSome = true) :
    evalUnits us (Sql.inline d (.col u .null .elementWise)) = us.map (fun un => (f (firstRow un)).get u) := by
  rw [evalUnits_ewise _ _ (inline_ewise d hd _ (by simp [isEwise]))]
  exact List.map_congr_left (fun un hun => inline_eval_col d _ _ (hag un hun) hc _ _)

theorem key_inline_at (d : Defs) (hd : DefsEwise d) (f : Row → Row) (us : List Unit') (hgood : Good d f us) (u : Uid)
    (hc : (d.get u).isSome = true) {k : Nat} (hk : k < us.length) :
    (evalUnits us (Sql.inline d (.col u .null .elementWise))).getD k .null =
      (firstRow ((us.map (fun un => un.map f)).getD k [])).get u := by
  rw [key_inline_units d hd f us (fun un hun => (hgood un hun).2 _ (by
    cases un with | nil => exact absurd rfl (hgood _ hun).1 | cons a _ => exact List.mem_cons_self)) u hc]
  simp only [List.getD_eq_getElem?_getD, List.getElem?_map, List.getElem?_eq_getElem hk, Option.map_some, Option.getD_some,
    firstRow_map_ne f _ (hgood _ (List.getElem_mem hk)).1]

/-- what the compiler returns for `summarize(L)` over an ungrouped base (`KU = []`) and for `group_by(KU) >> summarize(L)` -/
def sumOut (r : Compiled) (KU : List Uid) (L : List (String × Uid × Expr)) : Compiled :=
  { r with query := { r.query with groupBy := KU, select := KU.filter (fun u => !(L.map (·.1)).contains (Defs.name (r.defs ++ newDefs r.defs L) u)) ++ L.map (·.2.1), partitionBy := [], orderBy := [] }, defs := r.defs ++ newDefs r.defs L }

theorem sumOut_select {d : Defs} {sc : List Uid} (hkeys : ∀ u, (d.get u).isSome = true ↔ u ∈ sc) (KU : List Uid) (hKU : ∀ u ∈ KU, u ∈ sc)
    (L : List (String × Uid × Expr)) :
    KU.filter (fun u => !(L.map (·.1)).contains (Defs.name (d ++ newDefs d L) u)) ++ L.map (·.2.1) =
      ((KU.map (fun u => (d.name u, u))).filter (fun e => !(L.map (·.1)).contains e.1) ++ L.map (fun x => (x.1, x.2.1))).map (·.2) := by
  rw [List.map_append, List.filter_map, List.map_map, List.map_map]
  refine congrArg (· ++ _) (Eq.trans ?_ (List.map_id _).symm)
  exact List.filter_congr (fun u hu => by simp only [Function.comp_apply, name_old hkeys (hKU u hu)])

theorem summarize_out {c : Ast} {sc : List Uid} (h : Base c sc) (db : DB) (i : NodeId)
    (L : List (String × Uid × Expr)) (metas : List (Dtype × Ftype)) (hagg0 : ∃ t ∈ L, isAggQuery.aggNodes t.2.2 = true)
    (hv : ∀ t ∈ L, ∀ u ∈ t.2.2.uids, u ∈ sc) (hbf : ∀ t ∈ L, bareFree t.2.2 = true)
    (hL : NewCols sc L) (needed : Needed) {r : Compiled} {n' : Needed}
    (hc : compile c (down (.summarize i c (L.map (·.1)) (L.map (·.2.2)) (L.map (·.2.1)) metas) needed) = .ok (r, n'))
    (inv : Inv db sc r (Spec.run db c)) :
    compile (.summarize i c (L.map (·.1)) (L.map (·.2.2)) (L.map (·.2.1)) metas) needed =
        .ok (sumOut r [] L, up (.summarize i c (L.map (·.1)) (L.map (·.2.2)) (L.map (·.2.1)) metas) n') ∧
      (sumOut r [] L).query.select = (Spec.run db (.summarize i c (L.map (·.1)) (L.map (·.2.2)) (L.map (·.2.1)) metas)).visible.map (·.2) ∧
      Sql.run db (sumOut r [] L) = (Spec.run db (.summarize i c (L.map (·.1)) (L.map (·.2.2)) (L.map (·.2.1)) metas)).frame := by
  have hagg : isAggQuery (sumOut r [] L).query (sumOut r [] L).defs = true := by
    obtain ⟨x, hx, hxa⟩ := hagg0
    exact isAggQuery_of_mem (List.mem_map.2 ⟨x, hx, rfl⟩) (get_new inv.hkeys hL hx) ((aggNodes_eq r.defs inv.hd _).trans hxa)
  obtain ⟨f, bs, hbs, h1, h2, _⟩ := inv.passing_ext L
  -- one unit, one row, no old part.  The unit is empty when no row passes WHERE, so `inline_units` (non-empty units) does not
  -- apply: `inline_units_bf`, which is why the values are `bareFree`
  obtain ⟨hsel, hframe⟩ := new_cols_frame inv hL [bs] [bs.map f]
    (fun x hx => inline_units_bf r.defs inv.hd f x.2.2 _ (fun un hun b hb => h2 b (List.mem_singleton.1 hun ▸ hb)) (hbf x hx)
      (inv.covers (hv x hx)))
    (t' := Spec.run db (.summarize i c (L.map (·.1)) (L.map (·.2.2)) (L.map (·.2.1)) metas)) (keep := []) (n := 1) (o := fun _ => []) (g := [])
    (by simp only [Spec.run_summarize, summarizeUnits, h.gr db, h1, List.isEmpty_nil, ↓reduceIte, List.map_nil, List.length_singleton,
      List.filterMap_nil, List.filter_nil, List.zip_map'])
    nofun (fun _ _ => nofun) (fun _ _ => nofun) (S := (sumOut r [] L).query.select) (sumOut_select inv.hkeys [] nofun L)
  refine ⟨(compile_step_ok rfl rfl hc).trans (congrArg (fun x => Except.ok (x, _)) ?_), hsel, ?_⟩
  · simp only [step, sumOut, setDefs_fresh inv.hkeys hL, h.pb _ r n' hc, inv.hg, List.filter_nil, List.map_nil, List.append_nil]
  · rw [← hframe, Sql.run, evalSelect_ungrouped_agg _ (sumOut r [] L).query (sumOut r [] L).defs rfl inv.hh rfl inv.hl hagg]
    simp only [List.map_cons, List.map_nil, Row.map_get_zip_map, List.range_succ, List.range_zero, List.nil_append]
    rw [show (sumOut r [] L).src = r.src from rfl, show (sumOut r [] L).query.where_ = r.query.where_ from rfl,
      show (sumOut r [] L).defs = r.defs ++ newDefs r.defs L from rfl, hbs]

/-! ### `group_by >> summarize`: one unit per distinct key tuple -/

/-- `keys` of `evalSelect` = `kv` of `Spec.groupsOf` -/
theorem group_keys_eq (d : Defs) (hd : DefsEwise d) (f : Row → Row) (bs : List Row) (hag : ∀ b ∈ bs, Agree d b (f b))
    (K : List Uid) (hc : ∀ u ∈ K, (d.get u).isSome = true) :
    transpose (K.map (fun u => evalCol bs (Sql.inline d (.col u .null .elementWise)))) bs.length =
      (bs.map f).map (fun r => K.map r.get) := by
  rw [show K.map (fun u => evalCol bs (Sql.inline d (.col u .null .elementWise))) =
      K.map (fun u => evalUnits (singletons bs) (Sql.inline d (.col u .null .elementWise))) from rfl,
    transpose_ewise bs K (fun u => Sql.inline d (.col u .null .elementWise)) (fun u _ => inline_ewise d hd _ (by simp [isEwise])),
    List.map_map]
  exact List.map_congr_left (fun b hb => List.map_congr_left (fun u hu => inline_eval_col d b (f b) (hag b hb) (hc u hu) _ _))

theorem partitionIdx_lt (keys : List (List Val)) (g : List Nat) (hg : g ∈ partitionIdx keys) (i : Nat) (hi : i ∈ g) : i < keys.length := by
  simpa using (partitionIdx_perm keys).mem_iff.1 (List.mem_flatten.2 ⟨g, hg, hi⟩)

theorem units_map (f : Row → Row) (bs : List Row) (P : List (List Nat)) (hP : ∀ g ∈ P, ∀ i ∈ g, i < bs.length) :
    P.map (fun g => g.map (fun i => (bs.map f).getD i [])) = (P.map (fun g => g.map (fun i => bs.getD i []))).map (fun un => un.map f) := by
  rw [List.map_map]
  refine List.map_congr_left (fun g hg => ?_)
  simp only [Function.comp_apply, List.map_map]
  refine List.map_congr_left (fun i hi => ?_)
  simp [List.getD_eq_getElem?_getD, hP g hg i hi]

theorem units_rows_mem (bs : List Row) (P : List (List Nat)) (hP : ∀ g ∈ P, ∀ i ∈ g, i < bs.length) :
    ∀ un ∈ P.map (fun g => g.map (fun i => bs.getD i [])), ∀ b ∈ un, b ∈ bs := by
  intro un hun b hb
  obtain ⟨g, hg, rfl⟩ := List.mem_map.1 hun
  obtain ⟨i, hi, rfl⟩ := List.mem_map.1 hb
  simp [List.getD_eq_getElem?_getD, hP g hg i hi]

theorem units_nonempty (bs : List Row) (P : List (List Nat)) (hP : ∀ g ∈ P, g ≠ []) :
    ∀ un ∈ P.map (fun g => g.map (fun i => bs.getD i [])), un ≠ [] := by
  intro un hun
  obtain ⟨g, hg, rfl⟩ := List.mem_map.1 hun
  simpa using hP g hg

/-- `keep` of `Spec.run (.summarize …)` when every grouping column is visible -/
theorem keep_eq (vis : List (String × Uid)) (name : Uid → String) (hname : ∀ e ∈ vis, name e.2 = e.1) :
    ∀ (KU : List Uid), (∀ u ∈ KU, ∃ e ∈ vis, e.2 = u) →
      KU.filterMap (fun u => vis.find? (·.2 == u)) = KU.map (fun u => (name u, u)) :=
  fun KU h => filterMap_eq_map_of_mem _ _ KU (fun u hu => by
    obtain ⟨e, he, heu⟩ := h u hu
    obtain ⟨x, hf⟩ := Option.isSome_iff_exists.1 (List.find?_isSome (p := fun e => e.2 == u).2 ⟨e, he, by simp [heu]⟩)
    rw [hf, ← show x.2 = u by simpa using List.find?_some hf, hname x (List.mem_of_find?_eq_some hf)])

theorem grouped_out {c : Ast} {sc : List Uid} (db : DB) (j i : NodeId)
    (K : List (Uid × ColMeta)) (hK : K ≠ []) (hKsc : ∀ cu ∈ K, cu.1 ∈ sc) (hKnc : ∀ cu ∈ K, cu.2.dtype.isConst = false)
    (hKnd : (K.map (·.1)).Nodup) (hKvis : ∀ cu ∈ K, ∃ e ∈ (Spec.run db c).visible, e.2 = cu.1)
    (L : List (String × Uid × Expr)) (metas : List (Dtype × Ftype))
    (hv : ∀ t ∈ L, ∀ u ∈ t.2.2.uids, u ∈ sc) (hL : NewCols sc L) (needed : Needed)
    {r : Compiled} {n' : Needed}
    (hc : compile c (down (.groupBy j c K false)
      (down (.summarize i (.groupBy j c K false) (L.map (·.1)) (L.map (·.2.2)) (L.map (·.2.1)) metas) needed)) = .ok (r, n'))
    (inv : Inv db sc r (Spec.run db c)) :
    compile (.summarize i (.groupBy j c K false) (L.map (·.1)) (L.map (·.2.2)) (L.map (·.2.1)) metas) needed =
        .ok (sumOut r (K.map (·.1)) L, up (.summarize i (.groupBy j c K false) (L.map (·.1)) (L.map (·.2.2)) (L.map (·.2.1)) metas)
          (up (.groupBy j c K false) n')) ∧
      (sumOut r (K.map (·.1)) L).query.select =
        (Spec.run db (.summarize i (.groupBy j c K false) (L.map (·.1)) (L.map (·.2.2)) (L.map (·.2.1)) metas)).visible.map (·.2) ∧
      Sql.run db (sumOut r (K.map (·.1)) L) =
        (Spec.run db (.summarize i (.groupBy j c K false) (L.map (·.1)) (L.map (·.2.2)) (L.map (·.2.1)) metas)).frame := by
  have hcomp : compile (.summarize i (.groupBy j c K false) (L.map (·.1)) (L.map (·.2.2)) (L.map (·.2.1)) metas) needed =
      .ok (sumOut r (K.map (·.1)) L, up (.summarize i (.groupBy j c K false) (L.map (·.1)) (L.map (·.2.2)) (L.map (·.2.1)) metas)
        (up (.groupBy j c K false) n')) := by
    refine (compile_step_ok rfl rfl (compile_step_ok rfl rfl hc)).trans (congrArg (fun x => Except.ok (x, _)) ?_)
    -- every key is a non-constant column, so the GROUP BY list is the key list
    have hgb : ((K.map (fun cu => (cu.1, cu.2.dtype.isConst))).filter (fun p => !p.2)).map (·.1) = K.map (·.1) := by
      rw [List.filter_map, List.map_map, List.filter_eq_self.2 (fun cu hcu => by simp [hKnc cu hcu])]; rfl
    simp only [step, sumOut, setDefs_fresh inv.hkeys hL, inv.hg, hgb, Bool.false_eq_true, ↓reduceIte, List.nil_append, List.map_map]
    rfl
  have hKU : ∀ u ∈ K.map (·.1), u ∈ sc := List.forall_mem_map.2 hKsc
  have hKvis : ∀ u ∈ K.map (·.1), ∃ e ∈ (Spec.run db c).visible, e.2 = u := List.forall_mem_map.2 hKvis
  have hne : K.map (·.1) ≠ [] := by simpa using hK
  obtain ⟨f, bs, hbs, h1, hag, _⟩ := inv.passing_ext L
  -- an opaque name for `K.map (·.1)` (as `P`, `us` below): `rw` / `simp` do not look inside and unification stays cheap
  obtain ⟨KU, hKUdef⟩ : ∃ KU, KU = K.map (·.1) := ⟨_, rfl⟩
  rw [← hKUdef] at hKU hKvis hne hKnd hcomp ⊢
  -- both sides partition the same key table, so `P` names the groups of both
  have hkeys : transpose (KU.map (fun u => evalCol bs (Sql.inline (r.defs ++ newDefs r.defs L) (.col u .null .elementWise)))) bs.length =
      (bs.map f).map (fun r => KU.map r.get) := by
    rw [← group_keys_eq r.defs inv.hd f bs hag KU (inv.covers hKU)]
    exact congrArg (transpose · _) (List.map_congr_left (fun u hu => by rw [inline_col_old inv L (hKU u hu)]))
  generalize hP : partitionIdx ((bs.map f).map (fun r => KU.map r.get)) = P at hkeys
  have hPlt : ∀ g ∈ P, ∀ k ∈ g, k < bs.length := fun g hg k hk => by
    have := partitionIdx_lt _ g (hP ▸ hg) k hk
    rwa [List.length_map, List.length_map] at this
  obtain ⟨us, hus⟩ : ∃ us, us = P.map (fun g => g.map (fun k => bs.getD k [])) := ⟨_, rfl⟩
  have hgood : Good r.defs f us := fun un hun =>
    ⟨units_nonempty bs _ (hP ▸ partitionIdx_nonempty _) un (hus ▸ hun), fun b hb => hag b (units_rows_mem bs _ hPlt un (hus ▸ hun) b hb)⟩
  -- `Spec.run` in the form `new_cols_frame` expects; `o k`: the keys as the first row of unit `k` holds them
  have hspec : Spec.run db (.summarize i (.groupBy j c K false) (L.map (·.1)) (L.map (·.2.2)) (L.map (·.2.1)) metas) =
      ⟨(List.range us.length).map (fun k => KU.map (fun u => (u, (firstRow ((us.map (fun un => un.map f)).getD k [])).get u)) ++
          ((L.map (·.2.1)).zip ((L.map (·.2.2)).map (evalUnits (us.map (fun un => un.map f))))).map (fun uc => (uc.1, uc.2.getD k .null))),
        (KU.map (fun u => (r.defs.name u, u))).filter (fun e => !(L.map (·.1)).contains e.1) ++ L.map (fun x => (x.1, x.2.1)), []⟩ := by
    simp only [Spec.run_summarize, Spec.run_groupBy, summarizeUnits, Bool.false_eq_true, List.isEmpty_iff, hne, ↓reduceIte, h1,
      groupsOf, ← hKUdef, hP, units_map f bs P hPlt, ← hus, List.length_map, List.zip_map',
      keep_eq (Spec.run db c).visible r.defs.name inv.hname KU hKvis]
  obtain ⟨hsel, hframe⟩ := new_cols_frame inv hL us _
    (fun x hx => inline_units r.defs inv.hd f x.2.2 _ hgood (inv.covers (hv x hx))) hspec
    (List.forall_mem_map.2 (fun u hu => ⟨hKU u hu, rfl⟩)) (fun _ _ => List.forall_mem_map.2 hKU)
    (fun k hk => List.forall_mem_map.2 (fun u hu => (key_inline_at r.defs inv.hd f us hgood u (inv.covers hKU u hu) hk).trans
      (Row.get_map_of_mem (fun u : Uid => u) _ (by simpa using hKnd) hu).symm))
    (sumOut_select inv.hkeys KU hKU L)
  refine ⟨hcomp, hsel, ?_⟩
  rw [← hframe, Sql.run, evalSelect_grouped _ (sumOut r KU L).query (sumOut r KU L).defs hne inv.hh rfl inv.hl]
  simp only [sumOut, hbs, hkeys, hP, ← hus]
  simp only [List.map_map, Function.comp_def, Row.map_get_zip_map]

/-! ### a final `mutate` with window functions: every row a unit of its own -/

theorem singletons_map (f : Row → Row) (bs : List Row) : (singletons bs).map (fun un => un.map f) = singletons (bs.map f) := by
  simp [singletons, List.map_map, Function.comp_def]

theorem firstRow_singletons (l : List Row) (k : Nat) : firstRow ((singletons l).getD k []) = l.getD k [] := by
  simp only [singletons, List.getD_eq_getElem?_getD, List.getElem?_map]
  cases l[k]? <;> rfl

theorem window_out {c : Ast} {sc : List Uid} (db : DB) (i : NodeId)
    (L : List (String × Uid × Expr)) (metas : List (Dtype × Ftype))
    (hv : ∀ t ∈ L, ∀ u ∈ t.2.2.uids, u ∈ sc) (hna : ∀ t ∈ L, isAggQuery.aggNodes t.2.2 = false)
    (hL : NewCols sc L) (needed : Needed) {r : Compiled} {n' : Needed}
    (hc : compile c (down (.mutate i c (L.map (·.1)) (L.map (·.2.2)) (L.map (·.2.1)) metas) needed) = .ok (r, n'))
    (inv : Inv db sc r (Spec.run db c)) :
    compile (.mutate i c (L.map (·.1)) (L.map (·.2.2)) (L.map (·.2.1)) metas) needed =
        .ok (mutOut r L, up (.mutate i c (L.map (·.1)) (L.map (·.2.2)) (L.map (·.2.1)) metas) n') ∧
      (mutOut r L).query.select = (Spec.run db (.mutate i c (L.map (·.1)) (L.map (·.2.2)) (L.map (·.2.1)) metas)).visible.map (·.2) ∧
      Sql.run db (mutOut r L) = (Spec.run db (.mutate i c (L.map (·.1)) (L.map (·.2.2)) (L.map (·.2.1)) metas)).frame := by
  obtain ⟨f, bs, hbs, h1, h2, h3⟩ := inv.passing_ext L
  have hgood : Good r.defs f (singletons bs) := good_singletons r.defs f bs h2
  obtain ⟨hsel, hframe⟩ := new_cols_frame inv hL (singletons bs) (singletons (bs.map f))
    (fun x hx => by rw [inline_units r.defs inv.hd f x.2.2 _ hgood (inv.covers (hv x hx)), singletons_map])
    (t' := Spec.run db (.mutate i c (L.map (·.1)) (L.map (·.2.2)) (L.map (·.2.1)) metas)) (n := bs.length) (o := fun k => (bs.map f).getD k [])
    (by rw [Spec.run_mutate, h1, List.zip_map', List.length_map]; rfl)
    (fun e he => ⟨inv.hvis e he, inv.hname e he⟩)
    (fun k hk e he => by
      rw [show (bs.map f).getD k [] = f bs[k] by simp [List.getD_eq_getElem?_getD, hk]] at he
      exact h3 _ (List.getElem_mem hk) e he)
    (fun k hk e he => by
      rw [key_inline_at r.defs inv.hd f _ hgood e.2 ((inv.hkeys e.2).2 (inv.hvis e he)) (by simpa [singletons] using hk), singletons_map,
        firstRow_singletons])
    (inv.toO.mutOut_select L)
  refine ⟨(compile_step_ok rfl rfl hc).trans (by rw [step, setDefs_fresh inv.hkeys hL]; rfl), hsel, ?_⟩
  rw [← hframe, Sql.run, evalSelect_rows _ (mutOut r L).query (mutOut r L).defs (not_agg_of_defs _ _ (ext_no_agg inv L hna) inv.hg)
    inv.hh inv.ho inv.hl]
  simp only [show (mutOut r L).defs = r.defs ++ newDefs r.defs L from rfl, show (mutOut r L).query.where_ = r.query.where_ from rfl,
    show (mutOut r L).src = r.src from rfl, hbs, List.map_map, Function.comp_def, Row.map_get_zip_map]

/-! ### the refinement theorems -/

/-- **refinement for `group_by(K) >> summarize(L)` with arbitrary value expressions** over any `Base` (keys non-constant,
    distinct and visible): anything whose column references are in scope - operators, case and cast over aggregates, window
    functions, the keys themselves.  (For a column reference that is neither a key nor below an aggregate both models take the
    group's first row; the real type checker rejects such a summarize.) -/
theorem sql_refines_spec_grouped_gen {c : Ast} {sc : List Uid} (h : Base c sc) (db : DB) (j i : NodeId)
    (K : List (Uid × ColMeta)) (hK : K ≠ []) (hKsc : ∀ cu ∈ K, cu.1 ∈ sc) (hKnc : ∀ cu ∈ K, cu.2.dtype.isConst = false)
    (hKnd : (K.map (·.1)).Nodup) (hKvis : ∀ cu ∈ K, ∃ e ∈ (Spec.run db c).visible, e.2 = cu.1)
    (L : List (String × Uid × Expr)) (metas : List (Dtype × Ftype))
    (hv : ∀ t ∈ L, ∀ u ∈ t.2.2.uids, u ∈ sc) (hfresh : ∀ t ∈ L, t.2.1 ∉ sc) (hnd : (L.map (·.2.1)).Nodup) (needed : Needed) :
    ∃ r n', compile (.summarize i (.groupBy j c K false) (L.map (·.1)) (L.map (·.2.2)) (L.map (·.2.1)) metas) needed = .ok (r, n') ∧
      Sql.run db r = (Spec.run db (.summarize i (.groupBy j c K false) (L.map (·.1)) (L.map (·.2.2)) (L.map (·.2.1)) metas)).frame := by
  obtain ⟨r, n', hc, inv⟩ := h.ref db (down (.groupBy j c K false)
    (down (.summarize i (.groupBy j c K false) (L.map (·.1)) (L.map (·.2.2)) (L.map (·.2.1)) metas) needed))
  have := grouped_out db j i K hK hKsc hKnc hKnd hKvis L metas hv ⟨hfresh, hnd⟩ needed hc inv
  exact ⟨_, _, this.1, this.2.2⟩

/-- **refinement for an ungrouped summarize with arbitrary value expressions** over any `Base`: when some value holds a plain
    aggregate (without one the SELECT is not an aggregate query) and every column reference sits below one (`bareFree`),
    `compile` succeeds and the SELECT evaluates to the one-row frame of the reference semantics, for every database and
    `needed_cols` state -/
theorem sql_refines_spec_summarize_gen {c : Ast} {sc : List Uid} (h : Base c sc) (db : DB) (i : NodeId)
    (L : List (String × Uid × Expr)) (metas : List (Dtype × Ftype)) (hagg0 : ∃ t ∈ L, isAggQuery.aggNodes t.2.2 = true)
    (hv : ∀ t ∈ L, ∀ u ∈ t.2.2.uids, u ∈ sc) (hbf : ∀ t ∈ L, bareFree t.2.2 = true)
    (hfresh : ∀ t ∈ L, t.2.1 ∉ sc) (hnd : (L.map (·.2.1)).Nodup) (needed : Needed) :
    ∃ r n', compile (.summarize i c (L.map (·.1)) (L.map (·.2.2)) (L.map (·.2.1)) metas) needed = .ok (r, n') ∧
      Sql.run db r = (Spec.run db (.summarize i c (L.map (·.1)) (L.map (·.2.2)) (L.map (·.2.1)) metas)).frame := by
  obtain ⟨r, n', hc, inv⟩ := h.ref db (down (.summarize i c (L.map (·.1)) (L.map (·.2.2)) (L.map (·.2.1)) metas) needed)
  have := summarize_out h db i L metas hagg0 hv hbf ⟨hfresh, hnd⟩ needed hc inv
  exact ⟨_, _, this.1, this.2.2⟩

/-- non-vacuity: `summarize(z = t.b.sum() + 1, w = when(count() > 2).then(t.a.max()).otherwise(0))` meets the hypotheses on
    the values (scope `[10, 11]`) -/
example :
    let z : Expr := .fn "add" [.fn "sum" [.col 11 .int64 .elementWise] none [], .lit (.int 1) .int64] none []
    let w : Expr := .case [(.fn "greater_than" [.fn "count_star" [] none [], .lit (.int 2) .int64] none [],
                            .fn "max" [.col 10 .int64 .elementWise] none [])] (some (.lit (.int 0) .int64))
    bareFree z = true ∧ bareFree w = true ∧ isAggQuery.aggNodes z = true ∧ (∀ u ∈ z.uids ++ w.uids, u ∈ [10, 11]) := by
  decide +kernel

/-- **refinement for a final mutate with arbitrary (window / partitioned aggregate / nested) expressions** without a plain
    aggregate, over any `Base` -/
theorem sql_refines_spec_mutate_any {c : Ast} {sc : List Uid} (h : Base c sc) (db : DB) (i : NodeId)
    (L : List (String × Uid × Expr)) (metas : List (Dtype × Ftype))
    (hv : ∀ t ∈ L, ∀ u ∈ t.2.2.uids, u ∈ sc) (hna : ∀ t ∈ L, isAggQuery.aggNodes t.2.2 = false)
    (hfresh : ∀ t ∈ L, t.2.1 ∉ sc) (hnd : (L.map (·.2.1)).Nodup) (needed : Needed) :
    ∃ r n', compile (.mutate i c (L.map (·.1)) (L.map (·.2.2)) (L.map (·.2.1)) metas) needed = .ok (r, n') ∧
      Sql.run db r = (Spec.run db (.mutate i c (L.map (·.1)) (L.map (·.2.2)) (L.map (·.2.1)) metas)).frame := by
  obtain ⟨r, n', hc, inv⟩ := h.ref db (down (.mutate i c (L.map (·.1)) (L.map (·.2.2)) (L.map (·.2.1)) metas) needed)
  have := window_out db i L metas hv hna ⟨hfresh, hnd⟩ needed hc inv
  exact ⟨_, _, this.1, this.2.2⟩

end Pdt.C01
