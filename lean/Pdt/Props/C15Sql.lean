/-
  C15 on the SQL side, for the row-level fragment (`C01.Frag`): the instances of C15Base.lean, and the two filter laws that are
  stated for `Frag` only.
-/
import Pdt.Props.C15Base

namespace Pdt.C15
open Pdt Pdt.Spec Pdt.Sql Pdt.C01

/-- two pipelines of the row-level fragment with the same reference table compile — whatever the caller's needed-columns state —
    to queries with the same result -/
theorem sql_transport {a b : Ast} {sa sb : List Uid} (ha : Frag a sa) (hb : Frag b sb) (db : DB)
    (heq : Spec.run db a = Spec.run db b) (na nb : Needed) :
    ∃ ra na' rb nb', compile a na = .ok (ra, na') ∧ compile b nb = .ok (rb, nb') ∧ Sql.run db ra = Sql.run db rb :=
  refines_transport ha.refines hb.refines db heq na nb

/-- SQL: `filter(p…, q…)` and `filter(p…) >> filter(q…)` over any row-level pipeline return the same frame -/
theorem sql_filter_split {c : Ast} {sc : List Uid} (h : Frag c sc) (db : DB) (i j k : NodeId) (p q : List Expr)
    (hp : isEwiseList p = true) (hq : isEwiseList q = true)
    (hpu : ∀ u ∈ Expr.uidsList p, u ∈ sc) (hqu : ∀ u ∈ Expr.uidsList q, u ∈ sc) (n1 n2 : Needed) :
    ∃ r1 m1 r2 m2, compile (.filter j (.filter i c p) q) n1 = .ok (r1, m1) ∧ compile (.filter k c (p ++ q)) n2 = .ok (r2, m2) ∧
      Sql.run db r1 = Sql.run db r2 :=
  sql_filter_split_base h.refines db i j k p q hp hq hpu hqu n1 n2

/-- SQL: `filter(p…) >> filter(q…)` and `filter(q…) >> filter(p…)` return the same frame -/
theorem sql_filter_commute {c : Ast} {sc : List Uid} (h : Frag c sc) (db : DB) (i j k l : NodeId) (p q : List Expr)
    (hp : isEwiseList p = true) (hq : isEwiseList q = true)
    (hpu : ∀ u ∈ Expr.uidsList p, u ∈ sc) (hqu : ∀ u ∈ Expr.uidsList q, u ∈ sc) (n1 n2 : Needed) :
    ∃ r1 m1 r2 m2, compile (.filter j (.filter i c p) q) n1 = .ok (r1, m1) ∧ compile (.filter l (.filter k c q) p) n2 = .ok (r2, m2) ∧
      Sql.run db r1 = Sql.run db r2 := by
  have f1 : Frag (.filter j (.filter i c p) q) sc := Frag.filter j q (Frag.filter i p h hp hpu) hq hqu
  have f2 : Frag (.filter l (.filter k c q) p) sc := Frag.filter l p (Frag.filter k q h hq hqu) hp hpu
  exact sql_transport f1 f2 db (stbl_eq _ _ (filter_commute db i j k l c p q hp hq) rfl rfl) n1 n2

theorem sql_filter_idempotent {c : Ast} {sc : List Uid} (h : Frag c sc) (db : DB) (i j k : NodeId) (p : List Expr)
    (hp : isEwiseList p = true) (hpu : ∀ u ∈ Expr.uidsList p, u ∈ sc) (n1 n2 : Needed) :
    ∃ r1 m1 r2 m2, compile (.filter j (.filter i c p) p) n1 = .ok (r1, m1) ∧ compile (.filter k c p) n2 = .ok (r2, m2) ∧
      Sql.run db r1 = Sql.run db r2 := by
  have f1 : Frag (.filter j (.filter i c p) p) sc := Frag.filter j p (Frag.filter i p h hp hpu) hp hpu
  have f2 : Frag (.filter k c p) sc := Frag.filter k p h hp hpu
  exact sql_transport f1 f2 db (stbl_eq _ _ (filter_idempotent db i j k c p hp) rfl rfl) n1 n2


/-- the hypotheses are satisfiable: a source table and two element-wise predicates over its column -/
example : ∃ (c : Ast) (sc : List Uid) (p q : List Expr), Frag c sc ∧ isEwiseList p = true ∧ isEwiseList q = true ∧
    (∀ u ∈ Expr.uidsList p, u ∈ sc) ∧ (∀ u ∈ Expr.uidsList q, u ∈ sc) ∧ p ≠ [] ∧ q ≠ [] :=
  ⟨.source 0 "l" [("a", 10, .int64)] .polars, [10],
   [.fn "greater_than" [.col 10 .int64 .elementWise, .lit (.int 1) .int64] none []],
   [.fn "is_not_null" [.col 10 .int64 .elementWise] none []],
   Frag.source 0 "l" [("a", 10, .int64)] .polars (by decide), by decide, by decide, by decide, by decide, by simp, by simp⟩

/-- SQL: `rename({a: b}) >> rename({b: a})` exports what the pipeline below it exports -/
theorem sql_rename_inverse {c : Ast} {sc : List Uid} (h : Frag c sc) (db : DB) (i j : NodeId) (a b : String)
    (hb : ∀ e ∈ (Spec.run db c).visible, e.1 ≠ b ∨ a = b) (n1 n2 : Needed) :
    ∃ r1 m1 r2 m2, compile (.rename j (.rename i c [(a, b)]) [(b, a)]) n1 = .ok (r1, m1) ∧ compile c n2 = .ok (r2, m2) ∧
      Sql.run db r1 = Sql.run db r2 :=
  sql_rename_inverse_base h.refines db i j a b hb n1 n2

/-- SQL: `mutate(a = ea) >> mutate(b = eb)` and `mutate(a = ea, b = eb)` return the same frame when `eb` reads only columns of the input -/
theorem sql_mutate_split {c : Ast} {sc : List Uid} (h : Frag c sc) (db : DB) (i j k : NodeId) (na nb : String) (ea eb : Expr)
    (ua ub : Uid) (ma mb : Dtype × Ftype) (hne : na ≠ nb) (hu : ua ≠ ub) (hua : ua ∉ sc) (hub : ub ∉ sc)
    (ha : isEwise ea = true) (hb : isEwise eb = true)
    (hau : ∀ u ∈ ea.uids, u ∈ sc) (hbu : ∀ u ∈ eb.uids, u ∈ sc)
    (hcols : ∀ r ∈ (Spec.run db c).rows, ∀ u ∈ eb.uids, (r.find? (·.1 == u)).isSome = true) (n1 n2 : Needed) :
    ∃ r1 m1 r2 m2, compile (.mutate j (.mutate i c [na] [ea] [ua] [ma]) [nb] [eb] [ub] [mb]) n1 = .ok (r1, m1) ∧
      compile (.mutate k c [na, nb] [ea, eb] [ua, ub] [ma, mb]) n2 = .ok (r2, m2) ∧ Sql.run db r1 = Sql.run db r2 :=
  sql_mutate_split_base h.refines db i j k na nb ea eb ua ub ma mb hne hu hua hub ha hb hau hbu hcols n1 n2

end Pdt.C15
