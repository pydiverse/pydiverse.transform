/-
  C12 — static types predict the exported types.

  Value side: the *family* (int / float / bool / string) of the value the reference semantics
  computes, for all argument values, for comparisons, boolean operators, arithmetic, null handling,
  case expressions, aggregates, `row_number` and casts (not for the string operators, `rank` /
  `dense_rank`, `shift`, `cum_sum`).  Type side: the declared return types of the regenerated
  operator catalogue have those families, for the operators each theorem lists (kernel-decided).
  No theorem joins the two sides into a statement about expressions.
-/
import Pdt.Model.RowEval
import Pdt.Model.Typing

namespace Pdt.C12
open Pdt Pdt.Ops Pdt.Spec

inductive Fam where | int | float | bool | string | other
  deriving DecidableEq, Repr

def Dtype.fam (t : Dtype) : Fam :=
  let b := t.withoutConst
  if b.isInt then .int else if b.isFloat then .float else if b == .bool then .bool else if b.isStringLike then .string else .other

def fits (v : Val) (f : Fam) : Bool :=
  match v, f with
  | .null, _ => true
  | .int _, .int => true
  | .flt _, .float => true
  | .bool _, .bool => true
  | .str _, .string => true
  | _, _ => false

theorem fits_null (f : Fam) : fits .null f = true := by cases f <;> rfl

/-! ### value side -/

theorem cmp_is_bool (f : Ordering → Bool) (a b : Val) : fits (cmpOp f a b) .bool = true := by
  unfold cmpOp
  split
  · rfl
  · split <;> rfl

theorem comparisons_bool (a b : Val) :
    fits (eqV a b) .bool ∧ fits (neV a b) .bool ∧ fits (ltV a b) .bool ∧ fits (leV a b) .bool ∧
    fits (gtV a b) .bool ∧ fits (geV a b) .bool :=
  ⟨cmp_is_bool _ a b, cmp_is_bool _ a b, cmp_is_bool _ a b, cmp_is_bool _ a b, cmp_is_bool _ a b, cmp_is_bool _ a b⟩

theorem ofB3_bool (o : Option Bool) : fits (ofB3 o) .bool = true := by cases o <;> rfl

theorem boolean_ops_bool (a b : Val) (vs : List Val) :
    fits (andV a b) .bool ∧ fits (orV a b) .bool ∧ fits (xorV a b) .bool ∧ fits (notV a) .bool ∧ fits (isInV a vs) .bool ∧
    fits (ew "is_null" [a]) .bool ∧ fits (ew "is_not_null" [a]) .bool :=
  ⟨ofB3_bool _, ofB3_bool _, ofB3_bool _, ofB3_bool _, ofB3_bool _, rfl, rfl⟩

theorem numBin_int (fi : Int → Int → Val) (ff : Float → Float → Float) (hfi : ∀ x y, fits (fi x y) .int = true)
    (a b : Val) (ha : fits a .int = true) (hb : fits b .int = true) : fits (numBin fi ff a b) .int = true := by
  cases a with
  | null => cases b <;> rfl
  | int x =>
    cases b with
    | null => rfl
    | int y => exact hfi x y
    | _ => cases hb
  | _ => cases ha

theorem numBin_float (fi : Int → Int → Val) (ff : Float → Float → Float)
    (a b : Val) (ha : fits a .float = true) (hb : fits b .float = true) : fits (numBin fi ff a b) .float = true := by
  cases a with
  | null => cases b <;> rfl
  | flt x =>
    cases b with
    | null => rfl
    | flt y => rfl
    | _ => cases hb
  | _ => cases ha

theorem int_arith (a b : Val) (ha : fits a .int = true) (hb : fits b .int = true) :
    fits (addV a b) .int ∧ fits (subV a b) .int ∧ fits (mulV a b) .int := by
  refine ⟨?_, numBin_int _ _ (fun _ _ => rfl) a b ha hb, numBin_int _ _ (fun _ _ => rfl) a b ha hb⟩
  -- `addV` is not a `numBin` (it also concatenates strings and adds booleans as integers)
  cases a with
  | null => cases b <;> rfl
  | int x =>
    cases b with
    | null => rfl
    | int y => rfl
    | _ => cases hb
  | _ => cases ha

theorem float_arith (a b : Val) (ha : fits a .float = true) (hb : fits b .float = true) :
    fits (addV a b) .float ∧ fits (subV a b) .float ∧ fits (mulV a b) .float := by
  refine ⟨?_, numBin_float _ _ a b ha hb, numBin_float _ _ a b ha hb⟩
  cases a with
  | null => cases b <;> rfl
  | flt x =>
    cases b with
    | null => rfl
    | flt y => rfl
    | _ => cases hb
  | _ => cases ha

theorem truediv_float (a b : Val) : fits (truedivV a b) .float = true := by
  unfold truedivV
  split <;> simp [fits, vF]

theorem floordiv_mod_int (a b : Int) : fits (ew "floordiv" [.int a, .int b]) .int ∧ fits (ew "mod" [.int a, .int b]) .int := by
  constructor
  · show fits (if b == 0 then Val.null else Val.int (floordivSpec a b)) .int = true
    split <;> rfl
  · show fits (if b == 0 then Val.null else Val.int (modSpec a b)) .int = true
    split <;> rfl

theorem bool_add_is_int (x y : Bool) : fits (addV (.bool x) (.bool y)) .int = true := by
  cases x <;> cases y <;> rfl

theorem string_concat (x y : String) : addV (.str x) (.str y) = .str (x ++ y) := rfl

theorem fill_null_fam (a b : Val) (f : Fam) (ha : fits a f = true) (hb : fits b f = true) : fits (fillNullV a b) f = true := by
  unfold fillNullV; split <;> assumption

theorem coalesce_fam (vs : List Val) (f : Fam) (h : ∀ v ∈ vs, fits v f = true) : fits (coalesceV vs) f = true := by
  unfold coalesceV
  cases hf : vs.find? (fun v => !v.isNull) with
  | none => exact fits_null f
  | some v => exact h v (List.mem_of_find?_eq_some hf)

theorem pick_fam (better : Ordering → Bool) (acc v : Val) (f : Fam) (ha : fits acc f = true) (hv : fits v f = true) :
    fits (pick better acc v) f = true := by
  unfold pick
  split
  · exact ha
  · split
    · exact hv
    · split
      · split <;> assumption
      · exact ha

theorem foldl_fits (g : Val → Val → Val) (f : Fam) (hg : ∀ a b, fits a f = true → fits b f = true → fits (g a b) f = true)
    (vs : List Val) (acc : Val) (ha : fits acc f = true) (h : ∀ v ∈ vs, fits v f = true) : fits (vs.foldl g acc) f = true :=
  List.foldlRecOn vs g ha (fun b hb v hv => hg b v hb (h v hv))

theorem horizontal_minmax_fam (vs : List Val) (f : Fam) (h : ∀ v ∈ vs, fits v f = true) :
    fits (hmaxV vs) f = true ∧ fits (hminV vs) f = true :=
  ⟨foldl_fits _ f (fun a b => pick_fam _ a b f) vs .null (fits_null f) h,
   foldl_fits _ f (fun a b => pick_fam _ a b f) vs .null (fits_null f) h⟩

theorem pickRow_fam (f : Fam) : ∀ (conds vals : List Val) (d : Val), fits d f = true → (∀ v ∈ vals, fits v f = true) →
    fits (pickRow d conds vals) f = true
  | [], _, d, hd, _ => by simpa [pickRow] using hd
  | _ :: _, [], d, hd, _ => by simpa [pickRow] using hd
  | c :: cs, v :: vs, d, hd, h => by
      simp only [pickRow]
      split
      · exact h v (by simp)
      · exact pickRow_fam f cs vs d hd (fun w hw => h w (by simp [hw]))

theorem count_is_int_never_null (vals : List Val) : ∃ n : Int, agg "count" vals = .int n ∧ 0 ≤ n :=
  ⟨((vals.filter (fun v => !v.isNull)).length : Int), by simp [agg], by omega⟩

/-- the `match` is the shape `Ops.agg` has for `sum`, `min`, `max`, `any`, `all` -/
theorem fits_fold_nonnull (g : Val → Val → Val) (init : Val → Val) (f : Fam)
    (hg : ∀ a b, fits a f = true → fits b f = true → fits (g a b) f = true) (hinit : ∀ v, fits v f = true → fits (init v) f = true)
    (vals : List Val) (h : ∀ v ∈ vals, fits v f = true) :
    fits (match vals.filter (fun v => !v.isNull) with
      | [] => .null
      | v :: vs => vs.foldl g (init v)) f = true := by
  have hnn : ∀ v ∈ vals.filter (fun v => !v.isNull), fits v f = true := fun v hv => h v (List.mem_filter.1 hv).1
  cases hl : vals.filter (fun v => !v.isNull) with
  | nil => exact fits_null f
  | cons v vs =>
    rw [hl] at hnn
    exact foldl_fits g f hg vs _ (hinit v (hnn v (by simp))) (fun w hw => hnn w (by simp [hw]))

theorem min_max_fam (vals : List Val) (f : Fam) (h : ∀ v ∈ vals, fits v f = true) :
    fits (agg "min" vals) f = true ∧ fits (agg "max" vals) f = true :=
  ⟨fits_fold_nonnull _ id f (fun a b => pick_fam _ a b f) (fun _ hv => hv) vals h,
   fits_fold_nonnull _ id f (fun a b => pick_fam _ a b f) (fun _ hv => hv) vals h⟩

theorem any_all_bool (vals : List Val) (h : ∀ v ∈ vals, fits v .bool = true) :
    fits (agg "any" vals) .bool = true ∧ fits (agg "all" vals) .bool = true :=
  ⟨fits_fold_nonnull _ id .bool (fun _ _ _ _ => ofB3_bool _) (fun _ hv => hv) vals h,
   fits_fold_nonnull _ id .bool (fun _ _ _ _ => ofB3_bool _) (fun _ hv => hv) vals h⟩

theorem sum_int (vals : List Val) (h : ∀ v ∈ vals, fits v .int = true) : fits (agg "sum" vals) .int = true := by
  have hb : ∀ v, fits v .int = true → fits (boolToInt v) .int = true := by
    intro v hv
    cases v with
    | bool _ => cases hv
    | _ => exact hv
  exact fits_fold_nonnull _ boolToInt .int (fun a b ha hb' => numBin_int _ _ (fun _ _ => rfl) _ _ (hb a ha) (hb b hb')) hb vals h

theorem mean_is_float (vals : List Val) : fits (agg "mean" vals) .float = true := by
  unfold agg
  simp only
  cases vals.filter (fun v => !v.isNull) with
  | nil => rfl
  | cons v vs => simp [fits, vF]

theorem row_number_int (argCols : List (List Val)) (ordered : List Nat) (keysOf : Nat → List Val) (spec : List (Bool × Option Bool)) :
    ∀ p ∈ windowOp "row_number" argCols ordered keysOf spec, ∃ n : Int, p.2 = .int n := by
  intro p hp
  simp only [windowOp, List.mem_map] at hp
  obtain ⟨⟨i, k⟩, _, rfl⟩ := hp
  exact ⟨_, rfl⟩

theorem isInt_excl : ∀ (d : Dtype), d.isInt = true → d.isFloat = false ∧ d.isStringLike = false := by
  intro d
  induction d with
  | const b ih => intro h; simp only [Dtype.isInt] at h; exact ⟨by simpa [Dtype.isFloat] using (ih h).1, by simp [Dtype.isStringLike]⟩
  | _ => intro h; simp_all [Dtype.isInt, Dtype.isIntSub, Dtype.isFloat, Dtype.isStringLike]

theorem cast_to_int (v : Val) (t : Dtype) (ht : t.withoutConst.isInt = true) : fits (castVal v t) .int = true := by
  have hx := isInt_excl _ ht
  cases v with
  | str s =>
    simp only [castVal, ht, ↓reduceIte]
    cases s.toInt? <;> rfl
  | _ => simp [castVal, ht, hx.1, hx.2, fits]

theorem cast_to_float (v : Val) (t : Dtype) (ht : t.withoutConst.isFloat = true) (hi : t.withoutConst.isInt = false)
    (hv : ∀ s, v ≠ .str s) : fits (castVal v t) .float = true := by
  cases v <;> simp_all [castVal, fits, vF]

theorem cast_int_to_string (i : Int) (t : Dtype) (ht : t.withoutConst.isStringLike = true) (hf : t.withoutConst.isFloat = false) :
    castVal (.int i) t = .str (toString i) := by
  simp [castVal, ht, hf]

theorem cast_null (t : Dtype) : castVal .null t = .null := by simp [castVal]

/-! ### type side: declared return types in the regenerated catalogue -/

def sigsAll (attr : String) (p : Sig → Bool) : Bool :=
  match findOp attr with
  | some d => !d.sigs.isEmpty && d.sigs.all p
  | none => false

def famOf (t : Dtype) : Fam := Dtype.fam t

theorem bool_valued_ops :
    ["equal", "not_equal", "less_than", "less_equal", "greater_than", "greater_equal", "is_null", "is_not_null", "is_in",
     "bool_and", "bool_or", "bool_xor", "bool_invert", "str_starts_with", "str_ends_with", "str_contains", "any", "all",
     "horizontal_any", "horizontal_all"].all
      (fun a => sigsAll a (fun s => famOf s.ret == .bool)) = true := by decide +kernel

/-- each signature returns the type of its first parameter, or Int for Bool; for a parameter
    outside the four families only that the result is outside them too -/
theorem family_preserving_ops :
    ["add", "sub", "mul", "neg", "pos", "abs", "fill_null", "coalesce", "horizontal_max", "horizontal_min", "clip", "min", "max", "shift"].all
      (fun a => sigsAll a (fun s => s.ret == (s.params.headD .null).withoutConst ||
        (famOf (s.params.headD .null) == .bool && famOf s.ret == .int) ||
        -- temporal overloads; which type exactly: `temporal_add_sigs` / `temporal_sub_sigs`
        (famOf (s.params.headD .null) == .other && famOf s.ret == .other))) = true := by decide +kernel

theorem float_valued_ops : ["truediv", "mean"].all (fun a => sigsAll a (fun s => famOf s.ret == .float)) = true := by decide +kernel

theorem int_valued_ops :
    ["floordiv", "mod", "count", "count_star", "str_len", "row_number", "rank", "dense_rank"].all
      (fun a => sigsAll a (fun s => famOf s.ret == .int)) = true := by decide +kernel

theorem sum_sigs : sigsAll "sum" (fun s =>
    (famOf (s.params.headD .null) == .int && famOf s.ret == .int) || (famOf (s.params.headD .null) == .float && famOf s.ret == .float) ||
    (famOf (s.params.headD .null) == .bool && famOf s.ret == .int)) = true := by decide +kernel

theorem string_valued_ops :
    ["str_upper", "str_lower", "str_strip", "str_replace_all", "str_slice"].all (fun a => sigsAll a (fun s => famOf s.ret == .string)) = true := by
  decide +kernel

def isTemporal (t : Dtype) : Bool := t == .date || t == .datetime || t == .duration || t == .time

-- what temporal `+` / `-` should return, written down independently of the catalogue
def temporalAdd : List Dtype → Option Dtype
  | [.duration, .duration] => some .duration
  | [.datetime, .duration] => some .datetime
  | [.duration, .datetime] => some .datetime
  | [.date, .duration] => some .date
  | [.duration, .date] => some .date
  | _ => none

def temporalSub : List Dtype → Option Dtype
  | [.datetime, .datetime] => some .duration
  | [.date, .date] => some .duration
  | [.duration, .duration] => some .duration
  | [.datetime, .duration] => some .datetime
  | [.date, .duration] => some .date
  | _ => none

theorem temporal_add_sigs : sigsAll "add" (fun s => !(s.params.any isTemporal) || temporalAdd s.params == some s.ret) = true := by decide +kernel
theorem temporal_sub_sigs : sigsAll "sub" (fun s => !(s.params.any isTemporal) || temporalSub s.params == some s.ret) = true := by decide +kernel

/-- the two statements above are not vacuous -/
theorem temporal_sigs_present :
    (match findOp "add" with | some d => d.sigs.any (fun s => s.params == [.duration, .datetime]) | none => false) = true ∧
    (match findOp "sub" with | some d => d.sigs.any (fun s => s.params == [.datetime, .datetime]) | none => false) = true := by
  constructor <;> decide +kernel

end Pdt.C12
