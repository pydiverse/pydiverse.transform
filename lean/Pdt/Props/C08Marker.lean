/-
  C08, the materialisation step (backend/sql.py, `SubqueryMarker` branch of `compile_ast`; `markerOf` here): wrapping the
  accumulated SELECT into a subquery does not change the exported frame, whatever clauses that SELECT has, once it is `Ready`.
  The SELECT is not evaluated clause by clause: `evalSelect` splits into a part that does not read the select list (`core`) and
  the projection.  The subquery selects the *needed* columns, visible ones first, so that a name clash is resolved on a hidden
  column; the outer SELECT reads the visible ones back under their names.
-/
import Pdt.Props.C01Gen
import Pdt.Props.Lemmas.Dict

namespace Pdt.C08
open Pdt Pdt.Spec Pdt.Sql Pdt.C01

/-! ### the select list only decides which columns are output -/

/-- everything of `evalSelect` except the projection: the units after HAVING and the output positions after
    ORDER BY / OFFSET / LIMIT.  `agg` stands for `isAggQuery q defs`, which does read the select list. -/
def core (agg : Bool) (base : List Row) (q : Query) (defs : Defs) : List Unit' × List Nat :=
  let filtered := filterRows base (q.where_.map (Sql.inline defs))
  let units : List Unit' :=
    if agg then
      (if q.groupBy.isEmpty then [filtered]
       else
         let keyCols := q.groupBy.map (fun u => evalCol filtered (Sql.inline defs (.col u .null .elementWise)))
         let keys := transpose keyCols filtered.length
         (partitionIdx keys).map (fun g => g.map (fun i => filtered.getD i [])))
    else singletons filtered
  let hv := q.having.map (fun p => evalUnits units (Sql.inline defs p))
  let units := ((units.zip (List.range units.length)).filter (fun ui => hv.all (fun c => c.getD ui.2 .null == .bool true))).map (·.1)
  let ordKeys := transpose (q.orderBy.map (fun o => evalUnits units (Sql.inline defs o.1))) units.length
  let spec := q.orderBy.map (fun o => (o.2.1, o.2.2))
  let idx := if q.orderBy.isEmpty then List.range units.length
             else stableSort (fun i j => cmpKeys spec (ordKeys.getD i []) (ordKeys.getD j [])) (List.range units.length)
  (units, cutIdx q idx)

theorem evalSelect_core (base : List Row) (q : Query) (defs : Defs) :
    evalSelect base q defs = (core (isAggQuery q defs) base q defs).2.map (fun i => q.select.zip (q.select.map (fun u =>
      (evalUnits (core (isAggQuery q defs) base q defs).1 (Sql.inline defs (.col u .null .elementWise))).getD i .null))) := by
  unfold evalSelect core
  simp only [List.map_map]
  rfl

theorem core_select (agg : Bool) (base : List Row) (q : Query) (defs : Defs) (S : List Uid) :
    core agg base { q with select := S } defs = core agg base q defs := rfl

theorem evalSelect_proj (base : List Row) (q : Query) (defs : Defs) (N S : List Uid)
    (hsub : ∀ u ∈ S, u ∈ N) (hS : ∀ u ∈ S, u ∈ q.select)
    (hagg : isAggQuery { q with select := N } defs = isAggQuery q defs) :
    (evalSelect base { q with select := N } defs).map (fun row => S.map row.get) =
      (evalSelect base q defs).map (fun row => S.map row.get) := by
  rw [evalSelect_core, evalSelect_core, hagg, core_select]
  simp only [List.map_map]
  apply List.map_congr_left
  intro i _
  simp only [Function.comp_apply]
  apply List.map_congr_left
  intro u hu
  rw [Row.get_zip_map _ _ (hsub u hu), Row.get_zip_map _ _ (hS u hu)]

/-! ### definitions that differ in their labels only -/

def SameExprs (d2 d : Defs) : Prop := ∀ u, (d2.get u).map (·.2) = (d.get u).map (·.2)

theorem inline_same (d d2 : Defs) (h : SameExprs d2 d) : ∀ (e : Expr), Sql.inline d2 e = Sql.inline d e :=
  fun e => inline_congr_expr d d2 e (fun u _ => h u)

theorem inline_same_list (d d2 : Defs) (h : SameExprs d2 d) : ∀ (l : List Expr), inlineList d2 l = inlineList d l :=
  fun l => inlineList_congr_expr d d2 l (fun u _ => h u)

theorem inline_same_opt (d d2 : Defs) (h : SameExprs d2 d) : ∀ (l : Option (List Expr)), inlineOpt d2 l = inlineOpt d l :=
  fun l => inlineOpt_congr_expr d d2 l (fun u _ => h u)

theorem inline_same_ords (d d2 : Defs) (h : SameExprs d2 d) : ∀ (l : List (Expr × Bool × Option Bool)), inlineOrds d2 l = inlineOrds d l :=
  fun l => inlineOrds_congr_expr d d2 l (fun u _ => h u)

theorem inline_same_branches (d d2 : Defs) (h : SameExprs d2 d) : ∀ (l : List (Expr × Expr)), inlineBranches d2 l = inlineBranches d l :=
  fun l => inlineBranches_congr_expr d d2 l (fun u _ => h u)

theorem isAggQuery_same (q : Query) (d d2 : Defs) (h : SameExprs d2 d) : isAggQuery q d2 = isAggQuery q d := by
  unfold isAggQuery
  congr 1
  refine List.any_congr rfl ?_
  intro u
  have := h u
  cases h2 : d2.get u <;> cases h1 : d.get u <;> simp_all

theorem evalSelect_same (base : List Row) (q : Query) (d d2 : Defs) (h : SameExprs d2 d) :
    evalSelect base q d2 = evalSelect base q d := by
  have hi : Sql.inline d2 = Sql.inline d := funext (inline_same d d2 h)
  unfold evalSelect
  rw [hi, isAggQuery_same q d d2 h]

theorem get_set (d : Defs) (k : Uid) (v : String × Expr) (u : Uid) :
    (d.set k v).get u = if u = k then some v else d.get u := by
  rw [Defs.get, show d.set k v = Cache.dictPut d (k, v) from rfl, Cache.find_dictPut]
  by_cases huk : u = k
  · simp [huk]
  · simp [huk, Defs.get, show (k == u) = false from by simpa using fun h => huk h.symm]

/-- the fold is `innerDefs` of the marker branch of `compile` (`mInnerDefs`): it changes labels only -/
theorem relabel_same (d : Defs) : ∀ (names : List (Uid × String)),
    SameExprs (names.foldl (fun d e => match d.get e.1 with
        | some (_, ex) => d.set e.1 (e.2, ex)
        | none => d) d) d
  | [] => fun _ => rfl
  | e :: es => by
      intro u
      simp only [List.foldl_cons]
      cases hg : d.get e.1 with
      | none => simp only; exact relabel_same d es u
      | some p =>
        obtain ⟨nm0, ex⟩ := p
        simp only
        rw [relabel_same (d.set e.1 (e.2, ex)) es u, get_set]
        by_cases hu : u = e.1
        · subst hu; simp [hg]
        · simp [hu]

/-! ### the names of the subquery's columns -/

/-- the local step of the fold in `Sql.subqueryNames`, which cannot be named from outside (`subqueryNames_eq` is `rfl`) -/
def nstep (defs : Defs) (acc : List (Uid × String) × List (String × Nat)) (u : Uid) : List (Uid × String) × List (String × Nat) :=
  match defs.get u with
  | none => acc
  | some (name, _) =>
    match acc.2.find? (·.1 == name) with
    | some (_, c) => (acc.1 ++ [(u, s!"{name}_{c}")], acc.2.map (fun e => if e.1 == name then (name, c + 1) else e))
    | none => (acc.1 ++ [(u, name)], acc.2 ++ [(name, 1)])

theorem subqueryNames_eq (cols : List Uid) (defs : Defs) : subqueryNames cols defs = (cols.foldl (nstep defs) ([], [])).1 := rfl

theorem nstep_fst (D : Defs) (acc : List (Uid × String) × List (String × Nat)) (u : Uid) :
    ∃ l, (nstep D acc u).1 = acc.1 ++ l ∧ l.map (·.1) = (if (D.get u).isSome then [u] else []) := by
  unfold nstep
  cases hg : D.get u with
  | none => exact ⟨[], by simp⟩
  | some p =>
    obtain ⟨nm, e⟩ := p
    simp only
    cases hf : acc.2.find? (·.1 == nm) with
    | none => exact ⟨[(u, nm)], by simp⟩
    | some q => obtain ⟨_, c⟩ := q; exact ⟨[(u, s!"{nm}_{c}")], by simp⟩

theorem foldl_nstep_fst (D : Defs) : ∀ (cols : List Uid) (acc : List (Uid × String) × List (String × Nat)),
    ∃ l, (cols.foldl (nstep D) acc).1 = acc.1 ++ l ∧ l.map (·.1) = cols.filter (fun u => (D.get u).isSome)
  | [], acc => ⟨[], by simp⟩
  | x :: xs, acc => by
      obtain ⟨l1, h1, h1m⟩ := nstep_fst D acc x
      obtain ⟨l2, h2, h2m⟩ := foldl_nstep_fst D xs (nstep D acc x)
      refine ⟨l1 ++ l2, ?_, ?_⟩
      · simp only [List.foldl_cons]; rw [h2, h1, List.append_assoc]
      · rw [List.map_append, h1m, h2m, List.filter_cons]
        cases (D.get x).isSome <;> simp

theorem names_fst (cols : List Uid) (D : Defs) : (subqueryNames cols D).map (·.1) = cols.filter (fun u => (D.get u).isSome) := by
  obtain ⟨l, h, hm⟩ := foldl_nstep_fst D cols ([], [])
  rw [subqueryNames_eq, h]; simpa using hm

theorem foldl_nstep_count (D : Defs) (nm : String) : ∀ (cols : List Uid) (acc : List (Uid × String) × List (String × Nat)),
    acc.2.find? (·.1 == nm) = none → (∀ x ∈ cols, ∀ nx ex, D.get x = some (nx, ex) → nx ≠ nm) →
    (cols.foldl (nstep D) acc).2.find? (·.1 == nm) = none
  | [], _, h, _ => h
  | x :: xs, acc, h, hx => by
      refine foldl_nstep_count D nm xs _ ?_ (fun y hy => hx y (List.mem_cons_of_mem _ hy))
      unfold nstep
      cases hg : D.get x with
      | none => exact h
      | some p =>
        obtain ⟨nx, ex⟩ := p
        have hne : (nx == nm) = false := by simpa using hx x List.mem_cons_self nx ex hg
        rw [List.find?_eq_none] at h
        dsimp only
        split
        · simp only [List.find?_eq_none, List.mem_map]
          rintro _ ⟨y, hy, rfl⟩
          split
          · simp [hne]
          · exact h y hy
        · simpa [List.find?_eq_none, hne] using h

/-- the first column that carries a name keeps it, later ones get `_<count>`: with the visible columns first in `mCols`, the repair
    of D67.  The list is split at `u`, as `outer_get` has it. -/
theorem names_first_split (D : Defs) {u : Uid} {nm : String} {e : Expr} (hu : D.get u = some (nm, e)) (pre post : List Uid)
    (acc : List (Uid × String) × List (String × Nat)) (hacc : ∀ x ∈ acc.1, x.1 ≠ u) (hcnt : acc.2.find? (·.1 == nm) = none)
    (hpre : u ∉ pre) (hnm : ∀ x ∈ pre, ∀ nx ex, D.get x = some (nx, ex) → nx ≠ nm) :
    ((pre ++ u :: post).foldl (nstep D) acc).1.find? (·.1 == u) = some (u, nm) := by
  obtain ⟨l1, h1, hl1⟩ := foldl_nstep_fst D pre acc
  have hs : nstep D (pre.foldl (nstep D) acc) u = (acc.1 ++ l1 ++ [(u, nm)], (pre.foldl (nstep D) acc).2 ++ [(nm, 1)]) := by
    simp only [nstep, hu, foldl_nstep_count D nm pre acc hcnt hnm, h1]
  obtain ⟨l2, h2, -⟩ := foldl_nstep_fst D post (acc.1 ++ l1 ++ [(u, nm)], (pre.foldl (nstep D) acc).2 ++ [(nm, 1)])
  have hau : (acc.1 ++ l1).find? (·.1 == u) = none := by
    rw [List.find?_eq_none]
    intro y hy hyu
    rcases List.mem_append.1 hy with hy | hy
    · exact hacc y hy (beq_iff_eq.1 hyu)
    · exact hpre (List.mem_filter.1 (hl1 ▸ List.mem_map.2 ⟨y, hy, beq_iff_eq.1 hyu⟩)).1
  rw [List.foldl_append, List.foldl_cons, hs, h2, List.append_assoc (acc.1 ++ l1), List.find?_append, hau]
  simp

theorem names_first (D : Defs) (u : Uid) (nm : String) (e : Expr) (hu : D.get u = some (nm, e)) :
    ∀ (cols : List Uid) (acc : List (Uid × String) × List (String × Nat)),
      (∀ x ∈ acc.1, x.1 ≠ u) → acc.2.find? (·.1 == nm) = none → u ∈ cols →
      (∀ x ∈ cols.takeWhile (· != u), ∀ nx ex, D.get x = some (nx, ex) → nx ≠ nm) →
      (cols.foldl (nstep D) acc).1.find? (·.1 == u) = some (u, nm) := by
  intro cols acc hacc hcnt hm hpre
  obtain ⟨pre, post, rfl, hu'⟩ := List.eq_append_cons_of_mem hm
  rw [List.takeWhile_append_of_pos (fun a ha => bne_iff_ne.2 fun h : a = u => hu' (h ▸ ha)), List.takeWhile_cons_of_neg (by simp),
    List.append_nil] at hpre
  exact names_first_split D hu pre post acc hacc hcnt hu' hpre

/-! ### the `SubqueryMarker` branch of `compile_ast`

`mNeeded` … `markerOf` name the `let`s of the `.subqueryMarker` branch of `compile` (Model/Sql.lean), so that `compile_marker` is
`rfl`: `mNeeded` is `needed` after the guard against a subquery without columns, `mCols` is `subqCols`, `mInnerDefs` is
`innerDefs`, `mOuterDefs` is `defs`, `markerOf` the record returned. -/

def mNeeded (r : Compiled) (n1 : Needed) : Needed :=
  if n1.all (fun e => (r.defs.get e.1).isNone) then
    (match r.query.select with | u :: _ => n1.incr u | [] => n1) else n1

def mCols (r : Compiled) (n1 : Needed) : List Uid :=
  let needed := mNeeded r n1
  let subqCols0 := needed.map (·.1) ++ (r.query.partitionBy.map (·.1)).filter (fun u => !needed.any (·.1 == u))
  subqCols0.filter (fun u => r.query.select.contains u) ++ subqCols0.filter (fun u => !r.query.select.contains u)

def mInnerDefs (r : Compiled) (n1 : Needed) : Defs :=
  (subqueryNames (mCols r n1) r.defs).foldl (fun d e => match d.get e.1 with
    | some (_, ex) => d.set e.1 (e.2, ex)
    | none => d) r.defs

def mOuterDefs (r : Compiled) (n1 : Needed) : Defs :=
  (subqueryNames (mCols r n1) r.defs).map (fun e => (e.1, e.2, Expr.col e.1 .null .elementWise))

def markerOf (r : Compiled) (n1 : Needed) : Compiled :=
  let names := subqueryNames (mCols r n1) r.defs
  ⟨Src.subquery r.src { r.query with select := names.map (·.1) } (mInnerDefs r n1) names,
   { select := r.query.select.filter (fun u => ((mOuterDefs r n1).get u).isSome), partitionBy := r.query.partitionBy },
   mOuterDefs r n1⟩

theorem compile_marker (i : NodeId) (c : Ast) (needed : Needed) (r : Compiled) (n1 : Needed)
    (hc : compile c needed = .ok (r, n1)) :
    compile (.subqueryMarker i c) needed = .ok (markerOf r n1, mNeeded r n1) := by
  simp only [compile, hc]
  rfl

/-! ### transparency -/

/-- the hypotheses of `subquery_transparent`.  `needed`: `build_select` starts the counter with the final selection (`topNeeded`,
    C08Needed.lean); `agg`: whether the SELECT is an aggregate query does not depend on the hidden columns the subquery selects
    as well (`ready_agg_*`). -/
structure Ready (r : Compiled) (n1 : Needed) : Prop where
  needed : ∀ u ∈ r.query.select, n1.any (·.1 == u) = true
  defined : ∀ u ∈ r.query.select, (r.defs.get u).isSome = true
  names : (r.query.select.map r.defs.name).Nodup
  agg : ∀ N, (∀ u ∈ r.query.select, u ∈ N) → isAggQuery { r.query with select := N } r.defs = isAggQuery r.query r.defs

theorem incr_any (n : Needed) (v u : Uid) (h : n.any (·.1 == u) = true) : (n.incr v).any (·.1 == u) = true := by
  unfold Needed.incr
  obtain ⟨x, hx, hxu⟩ := List.any_eq_true.1 h
  split
  · rw [List.any_eq_true]
    refine ⟨if x.1 == v then (v, x.2 + 1) else x, List.mem_map.2 ⟨x, hx, rfl⟩, ?_⟩
    by_cases hxv : x.1 == v
    · simp only [hxv, ↓reduceIte]; rw [← (by simpa using hxv : x.1 = v)]; exact hxu
    · simp only [hxv, Bool.false_eq_true, ↓reduceIte]; exact hxu
  · rw [List.any_append, h]; rfl

theorem mNeeded_any (r : Compiled) (n1 : Needed) (u : Uid) (h : n1.any (·.1 == u) = true) : (mNeeded r n1).any (·.1 == u) = true := by
  unfold mNeeded
  split
  · split
    · exact incr_any _ _ _ h
    · exact h
  · exact h

theorem sel_in_cols (r : Compiled) (n1 : Needed) (h : Ready r n1) (u : Uid) (hu : u ∈ r.query.select) :
    u ∈ ((mNeeded r n1).map (·.1) ++ (r.query.partitionBy.map (·.1)).filter (fun u => !(mNeeded r n1).any (·.1 == u))).filter
      (fun u => r.query.select.contains u) := by
  obtain ⟨x, hx, hxu⟩ := List.any_eq_true.1 (mNeeded_any r n1 u (h.needed u hu))
  exact List.mem_filter.2 ⟨List.mem_append_left _ (List.mem_map.2 ⟨x, hx, beq_iff_eq.1 hxu⟩), List.contains_iff_mem.2 hu⟩

theorem sel_in_names (r : Compiled) (n1 : Needed) (h : Ready r n1) (u : Uid) (hu : u ∈ r.query.select) :
    u ∈ (subqueryNames (mCols r n1) r.defs).map (·.1) := by
  rw [names_fst, List.mem_filter]
  exact ⟨List.mem_append_left _ (sel_in_cols r n1 h u hu), h.defined u hu⟩

theorem outer_get (r : Compiled) (n1 : Needed) (h : Ready r n1) (u : Uid) (hu : u ∈ r.query.select) :
    (mOuterDefs r n1).get u = some (r.defs.name u, .col u .null .elementWise) := by
  obtain ⟨p, hp⟩ := Option.isSome_iff_exists.1 (h.defined u hu)
  obtain ⟨nm, e⟩ := p
  have hfirst : (subqueryNames (mCols r n1) r.defs).find? (·.1 == u) = some (u, nm) := by
    -- `u` stands among the visible columns, which come first and whose names are distinct
    obtain ⟨pre, post, hsplit, hpre⟩ := List.eq_append_cons_of_mem (sel_in_cols r n1 h u hu)
    rw [subqueryNames_eq, mCols, hsplit, List.append_assoc, List.cons_append]
    refine names_first_split r.defs hp pre _ ([], []) nofun rfl hpre (fun x hx nx ex hgx hnx => hpre ?_)
    have hxs : x ∈ r.query.select := List.contains_iff_mem.1 (List.mem_filter.1 (hsplit ▸ List.mem_append_left _ hx)).2
    rwa [Pdt.inj_of_nodup_map r.defs.name h.names hu hxs (by rw [Defs.name_of_get hp, Defs.name_of_get hgx, hnx])]
  rw [mOuterDefs, Defs.get_map (fun e : Uid × String => e.1) (fun e => (e.2, Expr.col e.1 .null .elementWise)), hfirst, Defs.name_of_get hp]
  rfl

theorem mOuterDefs_eq (r : Compiled) (n1 : Needed) :
    mOuterDefs r n1 = colDefs ((subqueryNames (mCols r n1) r.defs).map (fun e => (e.2, e.1, Dtype.null))) := by
  rw [mOuterDefs, colDefs, List.map_map]; rfl

theorem outer_defs_ewise (r : Compiled) (n1 : Needed) : DefsEwise (mOuterDefs r n1) := mOuterDefs_eq r n1 ▸ colDefs_ewise _

theorem outer_agree (r : Compiled) (n1 : Needed) (b : Row) : Agree (mOuterDefs r n1) b b := mOuterDefs_eq r n1 ▸ colDefs_agree _ b

theorem outer_rows_where (r : Compiled) (n1 : Needed) (h : Ready r n1) (base1 : List Row) (pb : List (Uid × Bool)) (W : List Expr)
    (hW : isEwiseList W = true) (hWu : ∀ u ∈ Expr.uidsList W, u ∈ r.query.select) :
    evalSelect base1 { select := r.query.select, partitionBy := pb, where_ := W } (mOuterDefs r n1) =
      (base1.filter (keeps W)).map (fun b => r.query.select.zip (r.query.select.map b.get)) := by
  have hcov : Covers (mOuterDefs r n1) r.query.select := fun u hu => by rw [outer_get r n1 h u hu]; rfl
  rw [evalSelect_agree base1 { select := r.query.select, partitionBy := pb, where_ := W } _ (outer_defs_ewise r n1) rfl rfl hW rfl
    (fun u hu => hcov u (hWu u hu)) (fun _ hu => by cases hu) hcov id (fun b _ => outer_agree r n1 b)]
  exact congrArg (List.map _) (sortedBase_nil id _)

theorem outer_rows (r : Compiled) (n1 : Needed) (h : Ready r n1) (base1 : List Row) (pb : List (Uid × Bool)) :
    evalSelect base1 { select := r.query.select, partitionBy := pb } (mOuterDefs r n1) =
      base1.map (fun b => r.query.select.zip (r.query.select.map b.get)) := by
  rw [show ({ select := r.query.select, partitionBy := pb } : Query) = { select := r.query.select, partitionBy := pb, where_ := [] } from rfl,
    outer_rows_where r n1 h base1 pb [] rfl (fun u hu => by simp [Expr.uidsList] at hu),
    filter_keeps_nil]

theorem outer_select (r : Compiled) (n1 : Needed) (h : Ready r n1) :
    r.query.select.filter (fun u => ((mOuterDefs r n1).get u).isSome) = r.query.select := by
  rw [List.filter_eq_self]
  intro u hu
  rw [outer_get r n1 h u hu]; rfl

theorem outer_labels (r : Compiled) (n1 : Needed) (h : Ready r n1) :
    r.query.select.map (mOuterDefs r n1).name = r.query.select.map r.defs.name :=
  List.map_congr_left (fun u hu => Defs.name_of_get (outer_get r n1 h u hu))

theorem inner_proj (db : DB) (r : Compiled) (n1 : Needed) (h : Ready r n1) :
    (evalSrc db (markerOf r n1).src).map (fun b => r.query.select.map b.get) =
      (evalSelect (evalSrc db r.src) r.query r.defs).map (fun row => r.query.select.map row.get) := by
  unfold markerOf
  simp only [evalSrc]
  unfold mInnerDefs
  rw [evalSelect_same _ _ r.defs _ (relabel_same r.defs _)]
  exact evalSelect_proj _ r.query r.defs _ r.query.select (sel_in_names r n1 h) (fun u hu => hu) (h.agg _ (sel_in_names r n1 h))

/-- **materialising the accumulated SELECT as a subquery does not change the exported frame**, for every SELECT that is `Ready` -/
theorem subquery_transparent (db : DB) (r : Compiled) (n1 : Needed) (h : Ready r n1) :
    Sql.run db (markerOf r n1) = Sql.run db r := by
  have hq : (markerOf r n1).query = { select := r.query.select, partitionBy := r.query.partitionBy } := by
    rw [markerOf, outer_select r n1 h]
  rw [Sql.run, Sql.run, hq, show (markerOf r n1).defs = mOuterDefs r n1 from rfl, outer_labels r n1 h, outer_rows r n1 h, List.map_map,
    ← inner_proj db r n1 h]
  simp only [Function.comp_def, Row.map_get_zip_map]

theorem marker_transparent (db : DB) (i : NodeId) (c : Ast) (needed : Needed) (r : Compiled) (n1 : Needed)
    (hc : compile c needed = .ok (r, n1)) (h : Ready r n1) :
    ∃ r2 n2, compile (.subqueryMarker i c) needed = .ok (r2, n2) ∧ Sql.run db r2 = Sql.run db r ∧
      Spec.run db (.subqueryMarker i c) = Spec.run db c :=
  ⟨_, _, compile_marker i c needed r n1 hc, subquery_transparent db r n1 h, rfl⟩

/-! ### when is the aggregate status independent of the hidden columns -/

theorem ready_agg_grouped (q : Query) (d : Defs) (hg : q.groupBy ≠ []) (N : List Uid) :
    isAggQuery { q with select := N } d = isAggQuery q d := by
  rw [isAggQuery_of_groupBy d hg, isAggQuery_of_groupBy (q := { q with select := N }) d hg]

theorem ready_agg_none (q : Query) (d : Defs) (hn : ∀ u p, d.get u = some p → isAggQuery.aggNodes p.2 = false) (N : List Uid) :
    isAggQuery { q with select := N } d = isAggQuery q d := by
  by_cases hg : q.groupBy = []
  · rw [not_agg_of_defs q d hn hg, not_agg_of_defs { q with select := N } d hn hg]
  · exact ready_agg_grouped q d hg N

theorem ready_agg_visible (q : Query) (d : Defs) (v : Uid) (hv : v ∈ q.select) (p : String × Expr) (hp : d.get v = some p)
    (ha : isAggQuery.aggNodes p.2 = true) (N : List Uid) (hN : ∀ u ∈ q.select, u ∈ N) :
    isAggQuery { q with select := N } d = isAggQuery q d := by
  rw [isAggQuery_of_mem hv hp ha, isAggQuery_of_mem (q := { q with select := N }) (hN v hv) hp ha]

/-- composition: a refinement proved for the pipeline below the marker carries over to the pipeline with the marker -/
theorem refines_through_marker (db : DB) (i : NodeId) (c : Ast) (needed : Needed) (r : Compiled) (n1 : Needed)
    (hc : compile c needed = .ok (r, n1)) (h : Ready r n1) (href : Sql.run db r = (Spec.run db c).frame) :
    ∃ r2 n2, compile (.subqueryMarker i c) needed = .ok (r2, n2) ∧ Sql.run db r2 = (Spec.run db (.subqueryMarker i c)).frame := by
  obtain ⟨r2, n2, h1, h2, h3⟩ := marker_transparent db i c needed r n1 hc h
  exact ⟨r2, n2, h1, by rw [h2, h3, href]⟩

/-! ### non-vacuity: `t >> group_by(a) >> summarize(s = b.sum())` below the marker -/

def exAst : Ast :=
  .summarize 3 (.groupBy 2 (.source 1 "t" [("a", 10, .int64), ("b", 11, .int64)] .sqlite) [(10, ⟨"a", .int64, .elementWise⟩)] false)
    ["s"] [.fn "sum" [.col 11 .int64 .elementWise] none []] [12] [(.int64, .aggregate)]

def exR : Compiled :=
  ⟨.table "t" [10, 11], { select := [10, 12], partitionBy := [], groupBy := [10] },
   [(10, "a", .col 10 .int64 .elementWise), (11, "b", .col 11 .int64 .elementWise), (12, "s", .fn "sum" [.col 11 .int64 .elementWise] none [])]⟩

example : compile exAst [(10, 1), (12, 1)] = .ok (exR, [(10, 1), (12, 1)]) := by rfl

example : Ready exR [(10, 1), (12, 1)] :=
  ⟨by decide +kernel, by decide +kernel, by decide +kernel, fun N _ => ready_agg_grouped _ _ (by decide) N⟩

/-! `t >> mutate(a = a + 1)` with the old `a` still needed: the hidden column takes the suffix (`a_1`), the visible one keeps `a` -/

def exAst2 : Ast :=
  .mutate 2 (.source 1 "t" [("a", 10, .int64), ("b", 11, .int64)] .sqlite) ["a"]
    [.fn "add" [.col 10 .int64 .elementWise, .lit (.int 1) .int64] none []] [12] [(.int64, .elementWise)]

def exR2 : Compiled :=
  ⟨.table "t" [10, 11], { select := [11, 12], partitionBy := [] },
   [(10, "a", .col 10 .int64 .elementWise), (11, "b", .col 11 .int64 .elementWise),
    (12, "a", .fn "add" [.col 10 .int64 .elementWise, .lit (.int 1) .int64] none [])]⟩

example : compile exAst2 [(11, 1), (12, 1), (10, 1)] = .ok (exR2, [(11, 1), (12, 1), (10, 1)]) := by rfl

example : Ready exR2 [(11, 1), (12, 1), (10, 1)] ∧
    (markerOf exR2 [(11, 1), (12, 1), (10, 1)]).defs.name 10 = "a_1" ∧ (markerOf exR2 [(11, 1), (12, 1), (10, 1)]).defs.name 12 = "a" :=
  ⟨⟨by decide +kernel, by decide +kernel, by decide +kernel,
    fun N _ => ready_agg_none _ _ (by
      intro u p hp
      have : p ∈ exR2.defs.map (·.2) := by
        unfold Defs.get at hp
        cases hf : exR2.defs.find? (·.1 == u) with
        | none => rw [hf] at hp; simp at hp
        | some y => rw [hf] at hp; simp at hp; rw [← hp]; exact List.mem_map.2 ⟨y, List.mem_of_find?_eq_some hf, rfl⟩
      clear hp
      revert p this; clear u; decide +kernel) N⟩, by decide +kernel, by decide +kernel⟩

end Pdt.C08
