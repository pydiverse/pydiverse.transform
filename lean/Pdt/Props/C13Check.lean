/-
  The evaluation behind C13.  `checkOp` reads the signature list alone, and the catalogue has fewer than
  half as many distinct signature lists as operators; the const-parameter clause is proved for every tuple
  (`C13Const`); the other three clauses are evaluated per distinct signature list by `checkSigs`,
  a form of them that the kernel reduces with a fraction of the work.
-/
import Pdt.Props.C13Const

namespace Pdt
open Dtype

/-! `allMatches` goes down the trie depth first, tuple by tuple.  `walks` goes level by level.  The
nodes reached after a prefix of the tuple are then a term that does not mention the rest of it, and
a node reached (`Walk`), once reduced, does not mention the arguments at all: the kernel, which
keeps what closed terms reduce to, works out each level once for all tuples, and variants of
tuples, that come to the same nodes.  And a prefix after which no node is reached can be dropped
with all tuples below it (`C13.allLive`).

Every equation with the model has one form: a call of the model's function is
`(flatM (Walk.below recur) E).map (acc ++ ·)` for the list `E` of nodes the level-by-level walk goes
on to (`Walk.below recur w`: what the model finds from `w` on).  The chain: `tyvarLoop_eq` (the
bindings of a type variable), `expandFrom_eq` (one call of `matchChildren`), `Walk.step_eq` (the
`a :: rest` equation of `allMatches` at one node), `walks_eq` (a whole tuple: the exchange of the
two orders), `resolveTrieF_eq`. -/

/-- `l.flatMap f` where every `f x` has to succeed -/
def flatM {α β : Type} (f : α → Option (List β)) : List α → Option (List β)
  | [] => some []
  | x :: l =>
    match f x, flatM f l with
    | some y, some r => some (y ++ r)
    | _, _ => none

theorem flatM_append {α β : Type} (f : α → Option (List β)) (l₁ l₂ : List α) :
    flatM f (l₁ ++ l₂) =
      match flatM f l₁, flatM f l₂ with
      | some y, some r => some (y ++ r)
      | _, _ => none := by
  induction l₁ with
  | nil => rw [List.nil_append, flatM]; cases flatM f l₂ <;> rfl
  | cons x l ih =>
    rw [List.cons_append, flatM, ih, flatM]
    cases f x <;> cases flatM f l <;> cases flatM f l₂ <;> simp

theorem flatM_map {α α' β γ : Type} (f : α → Option (List β)) (f' : α' → Option (List γ)) (g : β → γ)
    (k : α → α') (h : ∀ x, (f x).map (·.map g) = f' (k x)) (l : List α) :
    (flatM f l).map (·.map g) = flatM f' (l.map k) := by
  induction l with
  | nil => rfl
  | cons x l ih =>
    rw [List.map_cons, flatM, flatM, ← ih, ← h]
    cases f x <;> cases flatM f l <;> simp

theorem flatM_flatM {α β γ : Type} (f : α → Option (List β)) (g : α → Option (List γ))
    (h : β → Option (List γ)) (hg : ∀ x E, f x = some E → g x = flatM h E)
    (l : List α) (l' : List β) (hl : flatM f l = some l') : flatM g l = flatM h l' := by
  induction l generalizing l' with
  | nil => cases hl; rfl
  | cons x l ih =>
    rw [flatM] at hl
    split at hl
    · rename_i E r hE hr
      cases hl
      rw [flatM, flatM_append, hg x E hE, ih r hr]
    · cases hl

/-- a node on the way down, with the types the keys passed were matched as, and the bindings -/
structure Walk where
  ps : List Dtype
  t : Trie
  tv : Tyvars

/-- what `recur` finds from `w` on, as matches from where `w.ps` starts -/
def Walk.below (recur : Trie → Tyvars → Option (List Match)) (w : Walk) : Option (List Match) :=
  (recur w.t w.tv).map (·.map fun m => ⟨w.ps ++ m.params, m.ret⟩)

/-- the bindings `tyvarLoop` tries for the key `tvKey`, each with the node it goes on from.  The model's test
    `already.contains d` is left out: `already` is empty as long as no child has matched (`expandFrom`'s `seen`). -/
def bindings (child : Trie) (a tvKey : Dtype) (tv : Tyvars) (ds : List Dtype) : List Walk :=
  ds.filterMap fun d =>
    if convertsTo a (if tvKey.isConst then d.withConst else d) then
      some ⟨[if tvKey.isConst then d.withConst else d], child,
        tv.set (tyvarName tvKey.withoutConst) (if tvKey.isConst then d.withConst else d)⟩
    else none

theorem tyvarLoop_eq (recur : Trie → Tyvars → Option (List Match)) (child : Trie) (tvKey a : Dtype)
    (tv : Tyvars) (ds : List Dtype) (acc : List Match) :
    tyvarLoop (recur child) tvKey a tv [] ds acc =
      (flatM (Walk.below recur) (bindings child a tvKey tv ds)).map (acc ++ ·) := by
  induction ds generalizing acc with
  | nil => simp [tyvarLoop, bindings, flatM]
  | cons d ds ih =>
    rw [tyvarLoop, bindings, List.filterMap_cons]
    by_cases hc : convertsTo a (if tvKey.isConst then d.withConst else d) = true
    · simp only [List.contains_nil, Bool.not_false, Bool.true_and, hc, if_true, flatM, Walk.below]
      cases recur child _ with
      | none => rfl
      | some ms =>
        simp only [ih, bindings]
        cases flatM (Walk.below recur) _ with
        | none => rfl
        | some r => simp only [Option.map_some, List.append_assoc, List.cons_append, List.nil_append]
    · simp only [hc, Bool.and_false, Bool.false_eq_true, if_false]
      exact ih acc

/-- the nodes `matchChildren` goes on to for the argument `a`, in its order: the children whose key
    `a` converts to, then the bindings of the type variable.  `seen`: a child has matched; there is
    then no saying which bindings `tyvarLoop` skips without knowing what that child yields, and the
    answer is `none`, as it is where `matchChildren` fails.  (`expandFrom_eq`'s `hacc`: while no child
    has matched the accumulator, hence `already`, is empty.) -/
def expandFrom (self : Trie) (a : Dtype) (tv : Tyvars) :
    List (Dtype × Option Trie) → Option Dtype → Bool → Option (List Walk)
  | [], none, _ => some []
  | [], some tvKey, seen =>
      if seen then none
      else some (bindings (match self.children.find? (·.1 == tvKey) with
        | some (_, some c) => c
        | _ => self) a tvKey tv (implicitConversions a.withoutConst))
  | (dtype, ch) :: cs, tyv, seen =>
      if isTyvar (matchDtype tv dtype).withoutConst then
        (match tyv with
         | some _ => none
         | none => expandFrom self a tv cs (some dtype) seen)
      else if convertsTo a (matchDtype tv dtype) then
        (expandFrom self a tv cs tyv true).map
          (⟨[matchDtype tv dtype], (match ch with | some c => c | none => self), tv⟩ :: ·)
      else expandFrom self a tv cs tyv seen

theorem expandFrom_eq (self : Trie) (recur : Trie → Tyvars → Option (List Match)) (a : Dtype) (tv : Tyvars)
    (cs : List (Dtype × Option Trie)) (acc : List Match) (tyv : Option Dtype) (seen : Bool)
    (E : List Walk) (h : expandFrom self a tv cs tyv seen = some E) (hacc : seen = false → acc = []) :
    matchChildren self recur a tv cs acc tyv = (flatM (Walk.below recur) E).map (acc ++ ·) := by
  induction cs generalizing acc tyv seen E with
  | nil =>
    cases tyv with
    | none => cases h; simp [matchChildren, flatM]
    | some tvKey =>
      rw [expandFrom] at h
      split at h
      · cases h
      · cases h
        rw [hacc (Bool.not_eq_true _ ▸ ‹_›), matchChildren, List.map_nil, tyvarLoop_eq]
        rfl
  | cons e cs ih =>
    obtain ⟨dtype, ch⟩ := e
    unfold expandFrom at h
    rw [matchChildren.eq_def]
    dsimp only
    split at h
    · rw [if_pos ‹_›]
      cases tyv with
      | some _ => cases h
      | none => exact ih _ _ _ _ h hacc
    · rw [if_neg ‹_›]
      split at h
      · rw [if_pos ‹_›]
        obtain ⟨E₀, h₀, rfl⟩ := Option.map_eq_some_iff.mp h
        rw [flatM, Walk.below]
        dsimp only
        cases recur _ tv with
        | none => rfl
        | some ms =>
          dsimp only
          rw [ih _ _ _ _ h₀ (fun h => nomatch h)]
          cases flatM (Walk.below recur) E₀ with
          | none => rfl
          | some r => simp only [Option.map_some, List.append_assoc, List.cons_append, List.nil_append]
      · rw [if_neg ‹_›]
        exact ih _ _ _ _ h hacc

/-- the `a :: rest` equation of `allMatches` at the node `w`, as the nodes gone on to -/
def Walk.step (a : Dtype) (w : Walk) : Option (List Walk) :=
  (expandFrom w.t a w.tv w.t.children none false).map (·.map fun e => ⟨w.ps ++ e.ps, e.t, e.tv⟩)

theorem Walk.step_eq (a : Dtype) (rest : List Dtype) (w : Walk) (E : List Walk) (h : w.step a = some E) :
    w.below (allMatches (a :: rest)) = flatM (Walk.below (allMatches rest)) E := by
  obtain ⟨E₀, h₀, rfl⟩ := Option.map_eq_some_iff.mp h
  rw [Walk.below, allMatches, expandFrom_eq _ _ _ _ _ _ _ _ E₀ h₀ (fun _ => rfl)]
  simp only [List.nil_append, Option.map_id']
  refine flatM_map _ _ _ _ (fun e => ?_) E₀
  simp [Walk.below, Function.comp_def, List.append_assoc]

/-- the nodes reached with a whole tuple, level by level; `none` where a level has no answer -/
def walks : List Dtype → List Walk → Option (List Walk)
  | [], F => some F
  | a :: rest, F =>
    match flatM (Walk.step a) F with
    | none => none
    | some F' => walks rest F'

theorem walks_eq (args : List Dtype) (F F' : List Walk) (h : walks args F = some F') :
    flatM (Walk.below (allMatches args)) F = flatM (Walk.below (allMatches [])) F' := by
  induction args generalizing F with
  | nil => cases h; rfl
  | cons a rest ih =>
    rw [walks] at h
    split at h
    · cases h
    · rename_i F₁ h₁
      rw [← ih F₁ h]
      exact flatM_flatM _ _ _ (Walk.step_eq a rest) F F₁ h₁

/-- `resolveTrie` (Model/Resolve.lean) from the match list on, copied because the model has no
    function that takes the match list; the `rfl` of `resolveTrieF_eq` needs the two texts to agree -/
def bestOf (args : List Dtype) : Option (List Match) → Resolution
  | none => .internalError
  | some [] => .noMatch
  | some ms =>
      match bestSignatureMatch args (ms.map (·.params)) with
      | .idx i => (match ms[i]? with
          | some m => .ok m.params m.ret
          | none => .internalError)
      | .ambiguous => .noMatch
      | .internalError => .internalError

/-- `resolveTrie` by the level-by-level walk; where `walks` has no answer (`expandFrom`), the model's function is asked -/
def resolveTrieF (t : Trie) (args : List Dtype) : Resolution :=
  match walks args [⟨[], t, []⟩] with
  | none => resolveTrie t args
  | some F => bestOf args (flatM (Walk.below (allMatches [])) F)

theorem resolveTrieF_eq (t : Trie) : resolveTrieF t = resolveTrie t := by
  funext args
  unfold resolveTrieF
  split
  · rfl
  · rename_i F h
    have h0 : flatM (Walk.below (allMatches args)) [⟨[], t, []⟩] = allMatches args t [] := by
      simp only [flatM, Walk.below, List.nil_append]
      cases allMatches args t [] <;> simp
    rw [← walks_eq args _ F h, h0]
    rfl

theorem walks_nil (args : List Dtype) : walks args [] = some [] := by
  induction args with
  | nil => rfl
  | cons a rest ih => exact ih

theorem resolveTrieF_dead (t : Trie) (args : List Dtype) (h : walks args [⟨[], t, []⟩] = some []) :
    resolveTrieF t args = .noMatch := by
  rw [resolveTrieF, h]
  rfl

namespace C13

/-! Enumeration by recursion on the tuple: `List.range`, `getD` and `set` cost the kernel far more
than the resolution they surround. -/

def allOver (u : List Dtype) : Nat → (List Dtype → Bool) → Bool
  | 0, p => p []
  | k + 1, p => u.all fun d => allOver u k fun t => p (d :: t)

theorem tuples_all (u : List Dtype) (k : Nat) (p : List Dtype → Bool) :
    (tuples u k).all p = allOver u k p := by
  induction k generalizing p with
  | zero => simp [tuples, allOver]
  | succ k ih => simp only [tuples, allOver, List.all_flatMap, List.all_map, ← ih]; rfl

theorem allOver_true (u : List Dtype) (k : Nat) (p : List Dtype → Bool) (h : ∀ t, p t = true) :
    allOver u k p = true := by
  induction k generalizing p with
  | zero => exact h []
  | succ k ih => exact List.all_eq_true.mpr fun d _ => ih _ fun t => h (d :: t)

/-- `allOver` for a `p` that holds of the tuples that reach no node: `F` are the nodes reached with
    the tuple so far, and once there are none the tuples below are not gone through; below a level
    without an answer (`flatM … = none`) it goes on as `allOver` -/
def allLive (u : List Dtype) : Nat → List Walk → (List Dtype → Bool) → Bool
  | 0, _, p => p []
  | k + 1, F, p =>
    match F with
    | [] => true
    | _ => u.all fun d =>
      match flatM (Walk.step d) F with
      | none => allOver u k fun t => p (d :: t)
      | some F' => allLive u k F' fun t => p (d :: t)

theorem allLive_eq (u : List Dtype) (k : Nat) (F : List Walk) (p : List Dtype → Bool)
    (h : ∀ t, walks t F = some [] → p t = true) : allLive u k F p = allOver u k p := by
  induction k generalizing F p with
  | zero => rfl
  | succ k ih =>
    cases F with
    | nil => exact (allOver_true u (k + 1) p fun t => h t (walks_nil t)).symm
    | cons w F =>
      rw [allLive, allOver]
      · congr 1
        funext d
        split
        · rfl
        · rename_i F' hF'
          exact ih F' _ fun t ht => h (d :: t) (by rw [walks, hF']; exact ht)
      · exact fun h => nomatch h

/-- `q` on every tuple that differs from the given one in one component `a`, replaced by a member of `g a`
    (`range_all_setAt`: the `List.range` / `setAt` loops of `sizedAcceptedAt`, `constAcceptedAt`) -/
def allVariants (g : Dtype → List Dtype) : (List Dtype → Bool) → List Dtype → Bool
  | _, [] => true
  | q, a :: as => (g a).all (fun s => q (s :: as)) && allVariants g (fun t => q (a :: t)) as

theorem range_all_setAt (g : Dtype → List Dtype) (q : List Dtype → Bool) (args : List Dtype) :
    ((List.range args.length).all fun i =>
      (g (args.getD i .null)).all fun s => q (setAt args i s)) = allVariants g q args := by
  induction args generalizing q with
  | nil => rfl
  | cons a as ih =>
    rw [List.length_cons, List.range_succ_eq_map, List.all_cons, List.all_map, allVariants, ← ih]
    rfl

/-- `.const a`, not `a.withConst`: the variant of a universe tuple is then the very term the
    enumeration builds for that tuple, and the kernel has its resolution already -/
def constVariant : Dtype → List Dtype
  | .const _ => []
  | a => [.const a]

/-- totality, sized acceptance and const acceptance at one tuple, for a resolver `r` (`coreAt_eq`) -/
def coreAt (r : List Dtype → Resolution) (args : List Dtype) : Bool :=
  match r args with
  | .internalError => false
  | .noMatch => true
  | .ok _ ret =>
      allVariants sizedOf (fun v => match retOf (r v) with
        | some r' => family r' == family ret
        | none => false) args &&
      allVariants constVariant (fun v => match retOf (r v) with
        | some r' => r'.withoutConst == ret.withoutConst
        | none => false) args

theorem all_constVariant (a : Dtype) (q : Dtype → Bool) :
    (constVariant a).all q = (a.isConst || q a.withConst) := by
  cases a with
  | const b => rfl
  | _ => exact Bool.and_true _

theorem coreAt_eq (t : Trie) (args : List Dtype) :
    coreAt (resolveTrie t) args =
      (totalAt t args && sizedAcceptedAt t args && constAcceptedAt t args) := by
  unfold coreAt totalAt sizedAcceptedAt constAcceptedAt
  cases resolveTrie t args with
  | internalError => rfl
  | noMatch => rfl
  | ok ps ret =>
    -- `allVariants` stands for `range` / `setAt`, `constVariant` for `isConst || …`
    simp only [retOf, Bool.true_and, ← range_all_setAt, all_constVariant]
    rfl

/-- the body of `C13.arities` (C13Defs.lean), which takes an operator where `checkSigs` has only the signature list;
    `checkOp_of_checkSigs` needs the two texts to agree -/
def sigArities (sigs : List Sig) : List Nat :=
  (sigs.flatMap (fun s =>
    if s.vararg then [s.params.length - 1, s.params.length, s.params.length + 1] else [s.params.length])).eraseDups

/-- the three evaluated clauses for one signature list, together with `sigWf`, the premise under which the fourth
    clause holds by argument -/
def checkSigs (sigs : List Sig) : Bool :=
  sigs.all sigWf &&
    match Trie.build sigs with
    | none => false
    | some t => (sigArities sigs).all fun k =>
        allLive (universeFor k) k [⟨[], t, []⟩] (coreAt (resolveTrieF t))

theorem allLive_coreAt (u : List Dtype) (k : Nat) (t : Trie) :
    allLive u k [⟨[], t, []⟩] (coreAt (resolveTrieF t)) = allOver u k (coreAt (resolveTrieF t)) :=
  allLive_eq _ _ _ _ fun args h => by rw [coreAt, resolveTrieF_dead t args h]

theorem checkOp_of_checkSigs (op : OpDecl) (h : checkSigs op.sigs = true) : checkOp op = true := by
  simp only [checkSigs, allLive_coreAt, Bool.and_eq_true, List.all_eq_true] at h
  have hrej : ∀ args, op.sigs.all (fun s => constParamsRejectAt s args) = true := fun args =>
    List.all_eq_true.mpr fun s hs => constParamsRejectAt_of_sigWf s (h.1 s hs) args
  unfold checkOp
  simp only [tuples_all, hrej, Bool.and_true, ← coreAt_eq, ← resolveTrieF_eq]
  exact h.2

def sigLists : List (List Sig) := (Gen.opChunks.flatten.map (·.sigs)).eraseDups

theorem sigs_mem_sigLists {ch : List OpDecl} (hch : ch ∈ Gen.opChunks) {op : OpDecl} (hop : op ∈ ch) :
    op.sigs ∈ sigLists :=
  List.mem_eraseDups.mpr (List.mem_map_of_mem (List.mem_flatten.mpr ⟨ch, hch, hop⟩))

/-- the members at positions `i`, `i + n`, `i + 2 n`, … (for `i < n`); `C13/Share0 … Share7` check
    one share of `sigLists` each, as modules that build in parallel -/
def share {α : Type} (n : Nat) : Nat → List α → List α
  | _, [] => []
  | 0, a :: l => a :: share n (n - 1) l
  | i + 1, _ :: l => share n i l

theorem mem_share {α : Type} (n : Nat) (hn : 0 < n) (l : List α) (a : α) (h : a ∈ l) :
    ∃ i, i < n ∧ a ∈ share n i l := by
  induction l with
  | nil => exact absurd h (by simp)
  | cons x l ih =>
    rcases List.mem_cons.mp h with rfl | h
    · exact ⟨0, hn, by simp [share]⟩
    · obtain ⟨j, hj, hm⟩ := ih h
      by_cases hlast : j + 1 < n
      · exact ⟨j + 1, hlast, by simpa [share] using hm⟩
      · have : j = n - 1 := by omega
        exact ⟨0, hn, by rw [share, ← this]; exact List.mem_cons_of_mem _ hm⟩

end C13
end Pdt
