/-
  C18 — Python literals and patterns reach SQL as data.

  Theorems about the model of literal rendering / lexing and of LIKE with automatic escaping
  (Model/Strings.lean), for *all* strings, not only the test alphabet.  What is repo logic — that
  every literal goes through `compile_lit` with `literal_binds`, that every LIKE-based operator
  passes `autoescape=True` — is left to the O10/O7 observations of the check.
-/
import Pdt.Model.Strings

namespace Pdt.C18
open Pdt.Strings

theorem readBody_escape (s post : List Char) (hpost : post.head? ≠ some q) :
    readBody (escapeQuotes s ++ q :: post) = some (s, post) := by
  induction s with
  | nil =>
    cases post with
    | nil => simp [escapeQuotes, readBody]
    | cons c2 rest =>
      have hc : (c2 == q) = false := by
        simp only [List.head?_cons, ne_eq, Option.some.injEq] at hpost
        simpa using hpost
      simp [escapeQuotes, readBody, hc]
  | cons c cs ih =>
    by_cases hc : (c == q) = true
    · have : c = q := by simpa using hc
      subst this
      simp [escapeQuotes, readBody, ih]
    · have hc' : (c == q) = false := by simpa using hc
      simp only [escapeQuotes, hc', Bool.false_eq_true, ↓reduceIte, List.cons_append]
      rw [readBody.eq_def]
      simp [hc', ih]

/-- **no injection**: whatever the string contains (quotes, comment markers, semicolons, …), the
    lexer reads exactly one string token equal to it and continues with the statement text that
    followed the literal (which does not begin with a quote) -/
theorem no_injection (s post : List Char) (hpost : post.head? ≠ some q) :
    readString (quote s ++ post) = some (s, post) := by
  have := readBody_escape s post hpost
  simpa [readString, quote] using this

theorem quote_roundtrip (s : List Char) : readString (quote s) = some (s, []) := by
  simpa using no_injection s [] (by simp)

example : readString (quote "'; DROP TABLE t; --".toList ++ " AND 1".toList) = some ("'; DROP TABLE t; --".toList, " AND 1".toList) :=
  no_injection _ _ (by decide)

theorem like_nil (s : List Char) : like [] s = s.isEmpty := by rw [like.eq_def]

theorem like_percent_cons (ps : List Char) (x : Char) (t : List Char) :
    like ('%' :: ps) (x :: t) = (like ps (x :: t) || like ('%' :: ps) t) := by
  rw [like.eq_def]; simp [esc]

theorem like_percent_empty (ps : List Char) : like ('%' :: ps) [] = like ps [] := by
  rw [like.eq_def]; simp [esc]

theorem like_percent (q : List Char) : ∀ s : List Char,
    like ('%' :: q) s = true ↔ ∃ pre post, s = pre ++ post ∧ like q post = true
  | [] => by
      rw [like_percent_empty]
      refine ⟨fun h => ⟨[], [], rfl, h⟩, ?_⟩
      rintro ⟨pre, post, h, hl⟩
      obtain ⟨-, rfl⟩ := List.append_eq_nil_iff.1 h.symm
      exact hl
  | x :: t => by
      rw [like_percent_cons, Bool.or_eq_true, like_percent q t]
      constructor
      · rintro (h | ⟨pre, post, rfl, h⟩)
        · exact ⟨[], _, rfl, h⟩
        · exact ⟨x :: pre, post, rfl, h⟩
      · rintro ⟨pre, post, h, hl⟩
        cases pre with
        | nil => exact Or.inl (h ▸ hl)
        | cons y pre' =>
          rw [List.cons_append, List.cons.injEq] at h
          exact Or.inr ⟨pre', post, h.2, hl⟩

theorem like_percent_nil (s : List Char) : like ['%'] s = true :=
  (like_percent [] s).2 ⟨s, [], (List.append_nil s).symm, like_nil []⟩

/-- a character of the data pattern, escaped or not, matches exactly itself -/
theorem like_autoescape_cons (c : Char) (cs rest s : List Char) :
    like (autoescape (c :: cs) ++ rest) s = match s with
      | [] => false
      | x :: t => x == c && like (autoescape cs ++ rest) t := by
  by_cases hm : (c == '%' || c == '_' || c == esc) = true
  · simp only [autoescape, hm, ↓reduceIte, List.cons_append]
    rw [like.eq_def]
    cases s <;> simp
  · have hm' : (c == '%' || c == '_' || c == esc) = false := by simpa using hm
    simp only [Bool.or_eq_false_iff] at hm'
    simp only [autoescape, hm, ↓reduceIte, Bool.false_eq_true, List.cons_append]
    rw [like.eq_def]
    cases s <;> simp [hm'.2, hm'.1.1, hm'.1.2]

theorem like_exact (p : List Char) : ∀ s : List Char, like (autoescape p) s = (s == p) := by
  induction p with
  | nil => intro s; cases s <;> simp [autoescape, like_nil]
  | cons c cs ih =>
    intro s
    rw [← List.append_nil (autoescape (c :: cs)), like_autoescape_cons, List.append_nil]
    cases s <;> simp [ih]

/-- `x.startswith(p, autoescape=True)` ⇔ `p` is a prefix of the value -/
theorem like_prefix (p : List Char) : ∀ s : List Char, like (autoescape p ++ ['%']) s = p.isPrefixOf s := by
  induction p with
  | nil => intro s; simp [autoescape, like_percent_nil]
  | cons c cs ih =>
    intro s
    rw [like_autoescape_cons]
    cases s with
    | nil => rfl
    | cons x t => simp only [ih t, List.isPrefixOf]; rw [show (c == x) = (x == c) from Bool.beq_comm]

/-- `x.endswith(p, autoescape=True)` ⇔ the value ends with `p`.  This and `like_infix` conclude `∃ pre …`, while
    `Ops.ew "str_ends_with"` / `"str_contains"` use `Ops.isSuffix` / `Ops.isInfix`, and no lemma ties the two: only
    `like_prefix` is in the vocabulary of `Ops` -/
theorem like_suffix (p : List Char) : ∀ s : List Char,
    like ('%' :: autoescape p) s = true ↔ ∃ pre, s = pre ++ p := by
  intro s
  rw [like_percent]
  simp only [like_exact, beq_iff_eq]
  exact ⟨fun ⟨pre, _, h, hp⟩ => ⟨pre, hp ▸ h⟩, fun ⟨pre, h⟩ => ⟨pre, p, h, rfl⟩⟩

/-- `x.contains(p, autoescape=True)` ⇔ `p` occurs in the value -/
theorem like_infix (p : List Char) : ∀ s : List Char,
    like ('%' :: (autoescape p ++ ['%'])) s = true ↔ ∃ pre post, s = pre ++ p ++ post := by
  intro s
  rw [like_percent]
  simp only [like_prefix, List.isPrefixOf_iff_prefix]
  constructor
  · rintro ⟨pre, _, h, t, rfl⟩
    exact ⟨pre, t, by rw [h, List.append_assoc]⟩
  · rintro ⟨pre, post, h⟩
    exact ⟨pre, p ++ post, by rw [h, List.append_assoc], post, rfl⟩

/-- what `autoescape` is for: without it `%` and `_` in the data pattern are wildcards -/
example : like (autoescape "a%".toList) "abc".toList = false ∧ like (autoescape "a%".toList) "a%".toList = true := by
  constructor <;> (rw [like_exact]; decide)

end Pdt.C18
