/-
  C13 — overload resolution is total, deterministic and uniform: on the operator catalogue
  (`Gen.opChunks`; `chunks_cover` ties it to `Gen.opTable` by attribute name) and the type graph, both regenerated
  from /repo's source on every run.
-/
import Pdt.Props.C13Check
import Pdt.Props.C13.Share0
import Pdt.Props.C13.Share1
import Pdt.Props.C13.Share2
import Pdt.Props.C13.Share3
import Pdt.Props.C13.Share4
import Pdt.Props.C13.Share5
import Pdt.Props.C13.Share6
import Pdt.Props.C13.Share7

namespace Pdt.C13
open Pdt Dtype

/-- every attribute name of `Gen.opTable` occurs in a chunk; `resolve_total_uniform` quantifies
    over the chunks -/
theorem chunks_cover : ∀ op ∈ Gen.opTable, ∃ ch ∈ Gen.opChunks, op.attr ∈ ch.map (·.attr) := by
  decide +kernel

theorem sigLists_ok : ∀ sigs ∈ sigLists, checkSigs sigs = true := by
  -- before `sigs` is there: the match would generalise a hypothesis about `share 8 i sigLists`, and
  -- comparing that with `share 8 0 sigLists` makes the elaborator evaluate `sigLists`
  have hshare : ∀ i, i < 8 → (share 8 i sigLists).all checkSigs = true
    | 0, _ => share0_ok | 1, _ => share1_ok | 2, _ => share2_ok | 3, _ => share3_ok
    | 4, _ => share4_ok | 5, _ => share5_ok | 6, _ => share6_ok | 7, _ => share7_ok
  intro sigs h
  obtain ⟨i, hi, hm⟩ := mem_share 8 (by decide) sigLists sigs h
  exact List.all_eq_true.mp (hshare i hi) sigs hm

/-- **C13 on the finite universe.**
    For every operator of every chunk and every argument tuple over `U` (arities `arities op`: a
    vararg signature is called with one fewer, as many and one more than its listed types; full
    universe up to arity 2, reduced universes above): resolution ends in one overload or in
    `DataTypeError`, never in an internal error; sized types are accepted wherever the generic one
    is, with a result of the same family; a const argument is accepted wherever a column is; a
    signature alone never matches a non-const argument at a const parameter. -/
theorem resolve_total_uniform :
    ∀ ch ∈ Gen.opChunks, ∀ op ∈ ch, checkOp op = true := by
  intro ch hch op hop
  exact checkOp_of_checkSigs op (sigLists_ok op.sigs (sigs_mem_sigLists hch hop))

theorem checkOp_spec (op : OpDecl) (h : checkOp op = true) :
    ∃ t, Trie.build op.sigs = some t ∧
      ∀ k ∈ arities op, ∀ args ∈ tuples (universeFor k) k,
        resolveTrie t args ≠ .internalError ∧
        sizedAcceptedAt t args = true ∧ constAcceptedAt t args = true ∧
        ∀ s ∈ op.sigs, constParamsRejectAt s args = true := by
  unfold checkOp at h
  split at h
  · exact absurd h (by simp)
  · rename_i t ht
    refine ⟨t, ht, ?_⟩
    intro k hk args hargs
    rw [List.all_eq_true] at h
    have h1 := h k hk
    rw [List.all_eq_true] at h1
    have h2 := h1 args hargs
    simp only [Bool.and_eq_true] at h2
    obtain ⟨⟨⟨htot, hs⟩, hc⟩, hr⟩ := h2
    refine ⟨?_, hs, hc, ?_⟩
    · intro hi; unfold totalAt at htot; rw [hi] at htot; exact absurd htot (by simp)
    · rw [List.all_eq_true] at hr; exact hr

/- regression witnesses of the repaired defects D7, D24, D25 (known_findings.json, "fixed"): the
   model of the repaired code rejects them with a type error -/
theorem D7_fixed : resolve Gen.op_add [.const .null, .const .null] = .noMatch := by decide +kernel
theorem D24_fixed : resolve Gen.op_shift [.int64, .const .int64, .int64] = .noMatch := by decide +kernel
theorem D25_fixed : lcaType [.uint8, .list .int64] = .dataTypeError
    ∧ lcaType [.list .int64, .uint8] = .dataTypeError := by decide +kernel

/-- the number of candidates at each distance (at the minimal one, what decides between "one
    overload" and "type error" in `bestSignatureMatch`) does not depend on the order of the
    candidate list; tries built from reordered signatures are not considered -/
theorem ambiguity_perm_invariant (sig : List Dtype) (c₁ c₂ : List (List Dtype)) (h : c₁.Perm c₂)
    (d : Option Cost) :
    ((c₁.map (sigDistance sig)).filter (· == d)).length =
    ((c₂.map (sigDistance sig)).filter (· == d)).length :=
  ((h.map _).filter _).length_eq

def lcaOk : LcaResult → Bool
  | .ok _ => true
  | .dataTypeError => true
  | _ => false

theorem lca_total_pairs : U.all (fun a => U.all (fun b => lcaOk (lcaType [a, b]))) = true := by
  decide +kernel

/-- non-vacuity: the statement is about tuples that do resolve -/
example : resolve Gen.op_add [.int64, .const .float64] = .ok [.float, .float] .float := by decide +kernel
-- `checkOp` as defined, not through `checkSigs`
example : checkOp Gen.op_rank = true := by decide +kernel

end Pdt.C13
