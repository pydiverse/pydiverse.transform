/-
  C03 — element-wise operators follow the documented null-aware semantics.

  `Ops.ew` is the documented meaning (docstrings of ops/ops/*.py); the theorems say that the
  formulas the backends write on top of engine primitives compute that meaning.  The engine
  primitives (Polars `//`, `%`; SQLite scalar MAX/MIN, COALESCE, IN, !=) are the small
  definitions in Model/Ops.lean, validated against the engines by the O9 grid.
-/
import Pdt.Model.Ops

namespace Pdt.C03
open Pdt Pdt.Ops

/-! ### integer division and remainder (backend/polars.py `_floordiv`, `_mod`) -/

/-- Polars' sign-fixing formula around floor division is truncation toward zero (for a zero divisor
    both sides are 0 in Lean; `Ops.ew` returns null there) -/
theorem polars_floordiv_eq_spec (a b : Int) : polarsFloordiv a b = floordivSpec a b := by
  unfold polarsFloordiv floordivSpec plFloorDiv
  rw [Int.fdiv_eq_ediv_of_nonneg _ (Int.natCast_nonneg _)]
  -- four sign cases; in each, `neg_tdiv` / `tdiv_neg` reduce `a.tdiv b` to `ediv` on `|a|`, `|b|` as well
  by_cases ha : a < 0 <;> by_cases hb : b < 0
  · have ha' : (a.natAbs : Int) = -a := Int.ofNat_natAbs_of_nonpos (by omega)
    have hb' : (b.natAbs : Int) = -b := Int.ofNat_natAbs_of_nonpos (by omega)
    have e : a.tdiv b = (-(-a)).tdiv (-(-b)) := by simp
    simp only [ha, hb, decide_true, bne_self_eq_false, Bool.false_eq_true, ↓reduceIte, Int.mul_one]
    rw [e, Int.neg_tdiv, Int.tdiv_neg, Int.neg_neg, Int.tdiv_eq_ediv_of_nonneg (by omega), ha', hb']
  · have ha' : (a.natAbs : Int) = -a := Int.ofNat_natAbs_of_nonpos (by omega)
    have hb' : (b.natAbs : Int) = b := Int.natAbs_of_nonneg (by omega)
    have e : a.tdiv b = (-(-a)).tdiv b := by simp
    simp only [ha, hb, decide_true, decide_false, Bool.true_bne, Bool.not_false, ↓reduceIte]
    rw [e, Int.neg_tdiv, Int.tdiv_eq_ediv_of_nonneg (by omega), ha', hb']; omega
  · have ha' : (a.natAbs : Int) = a := Int.natAbs_of_nonneg (by omega)
    have hb' : (b.natAbs : Int) = -b := Int.ofNat_natAbs_of_nonpos (by omega)
    have e : a.tdiv b = a.tdiv (-(-b)) := by simp
    simp only [ha, hb, decide_true, decide_false, Bool.false_bne, ↓reduceIte]
    rw [e, Int.tdiv_neg, Int.tdiv_eq_ediv_of_nonneg (by omega), ha', hb']; omega
  · have ha' : (a.natAbs : Int) = a := Int.natAbs_of_nonneg (by omega)
    have hb' : (b.natAbs : Int) = b := Int.natAbs_of_nonneg (by omega)
    simp only [ha, hb, decide_false, bne_self_eq_false, Bool.false_eq_true, ↓reduceIte, Int.mul_one]
    rw [Int.tdiv_eq_ediv_of_nonneg (by omega), ha', hb']


theorem emod_natAbs (x b : Int) : x % (b.natAbs : Int) = x % b := by
  rcases Int.natAbs_eq b with h | h
  · rw [← h]
  · have : x % b = x % (-(b.natAbs : Int)) := by rw [← h]
    rw [this, Int.emod_neg]

/-- Polars' formula for `%` gives the remainder with the sign of the dividend -/
theorem polars_mod_eq_spec (a b : Int) : polarsMod a b = modSpec a b := by
  unfold polarsMod modSpec plMod
  by_cases ha : a ≥ 0
  · simp only [ha, ↓reduceIte, Int.mul_one]
    rw [Int.fmod_eq_emod_of_nonneg _ (Int.natCast_nonneg _), Int.tmod_eq_emod_of_nonneg ha, emod_natAbs]
  · have ha2 : ¬ a ≥ 0 := ha
    simp only [ha2, ↓reduceIte]
    have e1 : a.fmod ((b.natAbs : Int) * -1) = (-(-a)).fmod (-(b.natAbs : Int)) := by simp
    have e2 : a.tmod b = (-(-a)).tmod b := by simp
    rw [e1, e2, Int.neg_fmod_neg, Int.neg_tmod, Int.fmod_eq_emod_of_nonneg _ (Int.natCast_nonneg _),
      Int.tmod_eq_emod_of_nonneg (by omega), emod_natAbs]

/-- the documented examples -/
example : (floordivSpec 65 7, floordivSpec (-65) 7, floordivSpec 65 (-7), floordivSpec (-65) (-7)) = (9, -9, -9, 9) := by decide
example : (modSpec 65 7, modSpec (-65) 7, modSpec 65 (-7), modSpec (-65) (-7)) = (2, -2, 2, -2) := by decide

theorem floordiv_mod_identity (a b : Int) : floordivSpec a b * b + modSpec a b = a := by
  unfold floordivSpec modSpec
  exact Int.tdiv_mul_add_tmod a b

/-! ### Kleene logic (`& | ^ ~`) — exhaustive over the three truth values -/

macro "b3cases" : tactic =>
  `(tactic| (intro a b; rcases a with _ | _ | _ <;> rcases b with _ | _ | _ <;> rfl))

theorem kleene_and : ∀ a b : Option Bool, and3 a b =
    (match a, b with
     | some false, _ => some false | _, some false => some false
     | some true, some true => some true | _, _ => none) := by b3cases

theorem kleene_and_table :
    (and3 (some true) none, and3 none (some true), and3 (some false) none, and3 none (some false), and3 none none)
      = (none, none, some false, some false, none) := by decide

theorem kleene_or_table :
    (or3 (some true) none, or3 none (some true), or3 (some false) none, or3 none (some false), or3 none none)
      = (some true, some true, none, none, none) := by decide

theorem kleene_xor_not_table :
    (xor3 (some true) none, xor3 none (some false), xor3 (some true) (some false), not3 none, not3 (some true))
      = (none, none, some true, none, some false) := by decide

theorem kleene_comm : ∀ a b : Option Bool, and3 a b = and3 b a ∧ or3 a b = or3 b a ∧ xor3 a b = xor3 b a := by
  intro a b; rcases a with _ | _ | _ <;> rcases b with _ | _ | _ <;> exact ⟨rfl, rfl, rfl⟩
theorem kleene_de_morgan : ∀ a b : Option Bool, not3 (and3 a b) = or3 (not3 a) (not3 b) := by b3cases

theorem ew_dispatch (a b : Val) :
    ew "bool_and" [a, b] = andV a b ∧ ew "bool_or" [a, b] = orV a b ∧ ew "bool_xor" [a, b] = xorV a b ∧
    ew "bool_invert" [a] = notV a ∧ ew "equal" [a, b] = eqV a b ∧ ew "add" [a, b] = addV a b ∧
    ew "fill_null" [a, b] = fillNullV a b := ⟨rfl, rfl, rfl, rfl, rfl, rfl, rfl⟩

theorem ofB3_true (x : Option Bool) : (ofB3 x == .bool true) = (x == some true) := by
  cases x with
  | none => simp [ofB3]
  | some b => cases b <;> simp [ofB3]

theorem toB3_true (a : Val) : (toB3 a == some true) = (a == .bool true) := by
  cases a <;> simp [toB3]
  rename_i b; cases b <;> simp

theorem and3_true (x y : Option Bool) : (and3 x y == some true) = ((x == some true) && (y == some true)) := by
  cases x with
  | none => cases y with
    | none => simp [and3]
    | some b => cases b <;> simp [and3]
  | some a => cases y with
    | none => cases a <;> simp [and3]
    | some b => cases a <;> cases b <;> simp [and3]

theorem andV_true (a b : Val) : (andV a b == .bool true) = ((a == .bool true) && (b == .bool true)) := by
  unfold andV
  rw [ofB3_true, and3_true, toB3_true, toB3_true]

/-- generic SQL compiles `^` to `lhs != rhs`: on booleans that is three-valued xor -/
theorem sql_xor_eq_spec : ∀ a b : Option Bool, sqlXor (ofB3 a) (ofB3 b) = xorV (ofB3 a) (ofB3 b) := by b3cases

theorem null_propagates (b : Val) :
    addV .null b = .null ∧ addV b .null = .null ∧ subV .null b = .null ∧ subV b .null = .null ∧
    mulV .null b = .null ∧ mulV b .null = .null ∧ truedivV .null b = .null ∧ truedivV b .null = .null ∧
    eqV .null b = .null ∧ eqV b .null = .null ∧ neV .null b = .null ∧ neV b .null = .null ∧
    ltV .null b = .null ∧ ltV b .null = .null ∧ leV .null b = .null ∧ leV b .null = .null ∧
    gtV .null b = .null ∧ gtV b .null = .null ∧ geV .null b = .null ∧ geV b .null = .null := by
  cases b <;> simp [addV, subV, mulV, truedivV, eqV, neV, ltV, leV, gtV, geV, numBin, cmpOp, Val.isNull, toFloat?]

/-! ### `is_in`, `coalesce`, `fill_null` -/

/-- `x.is_in()` with no values is `False` (also for a null `x`): the Polars special case -/
theorem is_in_empty (x : Val) : isInV x [] = .bool false := by simp [isInV, ofB3]

theorem is_in_two (x a b : Val) : isInV x [a, b] = orV (eqV x a) (eqV x b) := by
  simp only [isInV, orV, List.foldl_cons, List.foldl_nil]
  have h : ∀ p q : Option Bool, or3 (or3 (some false) p) q = or3 (toB3 (ofB3 p)) (toB3 (ofB3 q)) := by
    intro p q; rcases p with _ | _ | _ <;> rcases q with _ | _ | _ <;> rfl
  have hb : ∀ v : Val, toB3 (ofB3 (toB3 v)) = toB3 v := by
    intro v; cases v <;> simp [toB3, ofB3]
  rw [h, hb, hb]

/-- the model of SQL `IN` and of Polars' `any_horizontal(x == v …)` is the same fold -/
theorem sql_in_eq_spec (x : Val) (vs : List Val) : ofB3 (sqlIn x vs) = isInV x vs := rfl

theorem coalesce_first_non_null (pre : List Val) (v : Val) (post : List Val)
    (hpre : ∀ p ∈ pre, p = .null) (hv : v ≠ .null) : coalesceV (pre ++ v :: post) = v := by
  have hvn : v.isNull = false := by cases v <;> simp_all [Val.isNull]
  induction pre with
  | nil => simp [coalesceV, hvn]
  | cons p t ih =>
    have hp : p = .null := hpre p (by simp)
    subst hp
    have := ih (fun q hq => hpre q (by simp [hq]))
    simp only [coalesceV] at this ⊢
    simpa [List.find?, Val.isNull] using this

theorem fill_null_spec (a b : Val) : fillNullV a b = if a = .null then b else a := by
  cases a <;> simp [fillNullV, Val.isNull]

/-! ### horizontal max / min on SQLite (backend/sqlite.py `_greatest`, `_least`) -/

/-- the operands the arity theorems are stated for: `pick` is not associative once `cmpVal` can
    return `none` (two type families) or meets a NaN (`.gt` in both directions) -/
def IntOrNull : Val → Prop
  | .null => True
  | .int _ => True
  | _ => False

theorem pick_null_left (better : Ordering → Bool) (b : Val) : pick better .null b = b := by
  unfold pick; cases b <;> simp [Val.isNull]

theorem pick_null_right (better : Ordering → Bool) (a : Val) : pick better a .null = a := by
  unfold pick; simp [Val.isNull]

theorem pick_int (better : Ordering → Bool) (x y : Int) :
    pick better (.int x) (.int y) = .int (if better (compare y x) then y else x) := by
  simp only [pick, Val.isNull, Bool.false_eq_true, ↓reduceIte, cmpVal]
  split <;> rfl

theorem pick_closed (better : Ordering → Bool) {a b : Val} (ha : IntOrNull a) (hb : IntOrNull b) :
    IntOrNull (pick better a b) := by
  cases a <;> cases b <;> simp_all [IntOrNull, pick_null_left, pick_null_right, pick_int]

/-- SQLite's two-operand formula `coalesce(MAX(l, r), l, r)`, or the same with `MIN`, is the null-skipping choice -/
theorem coalesce3_pick (better : Ordering → Bool) {l r : Val} (hl : IntOrNull l) (hr : IntOrNull r) :
    coalesce3 (if l.isNull || r.isNull then .null else pick better l r) l r = pick better l r := by
  cases l <;> cases r <;> simp_all [IntOrNull, coalesce3, Val.isNull, pick_null_left, pick_null_right, pick_int]

/-- on integers the choice is `max` / `min`, whose associativity is core's -/
theorem pick_gt_int (x y : Int) : pick (· == .gt) (.int x) (.int y) = .int (max x y) := by
  rw [pick_int]; simp only [beq_iff_eq, Int.compare_eq_gt]; congr 1; omega

theorem pick_lt_int (x y : Int) : pick (· == .lt) (.int x) (.int y) = .int (min x y) := by
  rw [pick_int]; simp only [beq_iff_eq, Int.compare_eq_lt]; congr 1; omega

theorem pick_gt_assoc {a b c : Val} (ha : IntOrNull a) (hb : IntOrNull b) (hc : IntOrNull c) :
    pick (· == .gt) (pick (· == .gt) a b) c = pick (· == .gt) a (pick (· == .gt) b c) := by
  cases a <;> cases b <;> cases c <;> simp_all [IntOrNull, pick_null_left, pick_null_right, pick_gt_int, Int.max_assoc]

theorem pick_lt_assoc {a b c : Val} (ha : IntOrNull a) (hb : IntOrNull b) (hc : IntOrNull c) :
    pick (· == .lt) (pick (· == .lt) a b) c = pick (· == .lt) a (pick (· == .lt) b c) := by
  cases a <;> cases b <;> cases c <;> simp_all [IntOrNull, pick_null_left, pick_null_right, pick_lt_int, Int.min_assoc]

/-! divide and conquer with an operation that is associative on `IntOrNull` and has `null` as unit is its left fold -/

section Fold
variable {g : Val → Val → Val} (hnl : ∀ b, g .null b = b) (hnr : ∀ a, g a .null = a)
  (hcl : ∀ {a b}, IntOrNull a → IntOrNull b → IntOrNull (g a b))
  (hassoc : ∀ {a b c}, IntOrNull a → IntOrNull b → IntOrNull c → g (g a b) c = g a (g b c))
include hcl

theorem foldl_closed {t : List Val} {a : Val} (ht : ∀ w ∈ t, IntOrNull w) (ha : IntOrNull a) : IntOrNull (t.foldl g a) :=
  List.foldlRecOn t g ha (fun _ hb v hv => hcl hb (ht v hv))

include hnl hnr hassoc

theorem foldl_from {xs : List Val} (hx : ∀ v ∈ xs, IntOrNull v) {a : Val} (ha : IntOrNull a) :
    xs.foldl g a = g a (xs.foldl g .null) := by
  induction xs generalizing a with
  | nil => exact (hnr a).symm
  | cons v t ih =>
    have hv := hx v (by simp)
    have ht : ∀ w ∈ t, IntOrNull w := fun w hw => hx w (by simp [hw])
    rw [List.foldl_cons, List.foldl_cons, ih ht (hcl ha hv), ih ht (hcl (a := .null) trivial hv), hnl, hassoc ha hv (foldl_closed hcl ht (a := .null) trivial)]

theorem foldl_null_append {xs ys : List Val} (hx : ∀ v ∈ xs, IntOrNull v) (hy : ∀ v ∈ ys, IntOrNull v) :
    (xs ++ ys).foldl g .null = g (xs.foldl g .null) (ys.foldl g .null) := by
  rw [List.foldl_append, foldl_from hnl hnr hcl hassoc hy (foldl_closed hcl hx (a := .null) trivial)]

/-- `c` is SQLite's two-operand formula (`g = pick …` by `coalesce3_pick`), `dnc` is `sqliteGreatest` /
    `sqliteLeast`, `hone` and `hsplit` are their two defining equations -/
theorem dnc_eq_foldl (c : Val → Val → Val) (hc : ∀ {l r}, IntOrNull l → IntOrNull r → c l r = g l r)
    (dnc : Nat → List Val → Val) (hone : ∀ f x, dnc (f + 1) [x] = x)
    (hsplit : ∀ f x y t, dnc (f + 1) (x :: y :: t) =
      c (dnc f ((x :: y :: t).take (((x :: y :: t).length + 1) / 2))) (dnc f ((x :: y :: t).drop (((x :: y :: t).length + 1) / 2)))) :
    ∀ (fuel : Nat) (xs : List Val), xs.length ≤ fuel → xs ≠ [] → (∀ v ∈ xs, IntOrNull v) → dnc fuel xs = xs.foldl g .null
  | 0, xs, h, hne, _ => absurd (List.eq_nil_of_length_eq_zero (Nat.le_zero.1 h)) hne
  | f + 1, [], _, hne, _ => absurd rfl hne
  | f + 1, [x], _, _, _ => by rw [hone, List.foldl_cons, List.foldl_nil, hnl]
  | f + 1, x :: y :: t, h, _, hall => by
      -- both halves are non-empty and shorter than the list
      obtain ⟨n, hn⟩ : ∃ n, n = ((x :: y :: t).length + 1) / 2 := ⟨_, rfl⟩
      have hn1 : 0 < n ∧ n < (x :: y :: t).length := by simp only [List.length_cons] at hn ⊢; omega
      have hl : ((x :: y :: t).take n).length ≤ f := by rw [List.length_take]; omega
      have hr : ((x :: y :: t).drop n).length ≤ f := by rw [List.length_drop]; omega
      have hlne : (x :: y :: t).take n ≠ [] := fun hc => by
        have := congrArg List.length hc; rw [List.length_take, List.length_nil] at this; omega
      have hrne : (x :: y :: t).drop n ≠ [] := fun hc => by
        have := congrArg List.length hc; rw [List.length_drop, List.length_nil] at this; omega
      have hla : ∀ v ∈ (x :: y :: t).take n, IntOrNull v := fun v hv => hall v (List.mem_of_mem_take hv)
      have hra : ∀ v ∈ (x :: y :: t).drop n, IntOrNull v := fun v hv => hall v (List.mem_of_mem_drop hv)
      rw [hsplit, ← hn, dnc_eq_foldl c hc dnc hone hsplit f _ hl hlne hla, dnc_eq_foldl c hc dnc hone hsplit f _ hr hrne hra,
        hc (foldl_closed hcl hla (a := .null) trivial) (foldl_closed hcl hra (a := .null) trivial),
        ← foldl_null_append hnl hnr hcl hassoc hla hra, List.take_append_drop]

end Fold

/-- **SQLite `_greatest` equals the documented null-skipping maximum for every arity ≥ 1, on operands
    that are integers or null** -/
theorem sqlite_greatest_eq_spec : ∀ (fuel : Nat) (xs : List Val), xs.length ≤ fuel → xs ≠ [] →
    (∀ v ∈ xs, IntOrNull v) → sqliteGreatest fuel xs = hmaxV xs :=
  dnc_eq_foldl (pick_null_left _) (pick_null_right _) (pick_closed _) pick_gt_assoc _ (coalesce3_pick _) sqliteGreatest
    (fun _ _ => rfl) (fun _ _ _ _ => rfl)

/-- **SQLite `_least`: the same for the minimum** -/
theorem sqlite_least_eq_spec : ∀ (fuel : Nat) (xs : List Val), xs.length ≤ fuel → xs ≠ [] →
    (∀ v ∈ xs, IntOrNull v) → sqliteLeast fuel xs = hminV xs :=
  dnc_eq_foldl (pick_null_left _) (pick_null_right _) (pick_closed _) pick_lt_assoc _ (coalesce3_pick _) sqliteLeast
    (fun _ _ => rfl) (fun _ _ _ _ => rfl)

theorem sqlite_horizontal_max (xs : List Val) (hne : xs ≠ []) (h : ∀ v ∈ xs, IntOrNull v) :
    sqliteGreatest xs.length xs = hmaxV xs :=
  sqlite_greatest_eq_spec _ xs (Nat.le_refl _) hne h

theorem sqlite_horizontal_min (xs : List Val) (hne : xs ≠ []) (h : ∀ v ∈ xs, IntOrNull v) :
    sqliteLeast xs.length xs = hminV xs :=
  sqlite_least_eq_spec _ xs (Nat.le_refl _) hne h

/-- what goes wrong without the `coalesce`: SQLite's scalar MAX alone is not null-skipping -/
example : sqliteMax2 (.int 3) .null = .null ∧ hmaxV [.int 3, .null] = .int 3 := by decide

/-- SQLite `max(min(x, upper), lower)` is the documented clip when `x` and both bounds are integers -/
theorem sqlite_clip_eq_spec (x lo hi : Int) :
    sqliteClip (.int x) (.int lo) (.int hi) = clipV (.int x) (.int lo) (.int hi) := by
  simp only [sqliteClip, sqliteMin2, clipV, Val.isNull, Bool.or_self, Bool.false_eq_true, ↓reduceIte, pick_int]
  simp [sqliteMax2, Val.isNull, pick_int]

theorem clip_null (lo hi : Val) : clipV .null lo hi = .null := by simp [clipV, Val.isNull]

end Pdt.C03
