/-
  C07 on the SQL side.  The union of two base pipelines (`C01.Base`) compiles to
  `SELECT … FROM (<left> UNION [ALL] <right re-selected by the left names>)`, a SELECT of bare columns, hence an instance
  of `Inv.ofCols` (`union_inv`); what each operand's SELECT delivers is read off its invariant by `invO_rows` (`operand_rows`).
-/
import Pdt.Props.C01Gen
import Pdt.Props.C01Ord
import Pdt.Props.C07
import Pdt.Props.C02

namespace Pdt.C07
open Pdt Pdt.Spec Pdt.Sql Pdt.C01

theorem inv_rows (db : DB) (sc : List Uid) (r : Compiled) (t : STbl) (h : Inv db sc r t) (S : List Uid) (hS : ∀ u ∈ S, u ∈ sc) :
    evalSelect (evalSrc db r.src) { r.query with select := S } r.defs = t.rows.map (fun s => S.zip (S.map s.get)) :=
  invO_rows h.toO S hS

theorem find_by_name (name : Uid → String) (n : String) : ∀ (vis : List (String × Uid)), (∀ e ∈ vis, name e.2 = e.1) →
    (vis.map (·.2)).find? (fun u => name u == n) = (vis.find? (·.1 == n)).map (·.2)
  | [], _ => rfl
  | e :: es, h => by
      have he := h e (List.mem_cons_self ..)
      simp only [List.map_cons, List.find?_cons, he]
      cases hc : (e.1 == n) with
      | true => rfl
      | false => exact find_by_name name n es (fun x hx => h x (List.mem_cons_of_mem _ hx))

theorem map_get_zip : ∀ (S : List Uid) (V : List Val), S.Nodup → V.length = S.length → S.map (Row.get (S.zip V)) = V
  | [], [], _, _ => rfl
  | [], _ :: _, _, h => by simp at h
  | _ :: _, [], _, h => by simp at h
  | u :: us, v :: vs, hnd, hlen => by
      rw [List.nodup_cons] at hnd
      simp only [List.length_cons, Nat.add_right_cancel_iff] at hlen
      simp only [List.zip_cons_cons, List.map_cons]
      congr 1
      · simp [Row.get]
      · refine (List.map_congr_left (fun w hw => ?_)).trans (map_get_zip us vs hnd.2 hlen)
        have hne : (u == w) = false := by
          simp only [beq_eq_false_iff_ne, ne_eq]
          intro heq; subst heq; exact hnd.1 hw
        simp only [Row.get, List.find?_cons, hne]

/-- `rsel` of the union branch of `compile` when the name lists differ (`mapM_find`): for each left name the right column that
    carries it (`0` when there is none) -/
def rselOf (lvis rvis : List (String × Uid)) : List Uid :=
  lvis.map (fun e => match rvis.find? (·.1 == e.1) with | some (_, u) => u | none => 0)

theorem mapM_find (d : Defs) (rvis : List (String × Uid)) (hname : ∀ e ∈ rvis, d.name e.2 = e.1) :
    ∀ (lvis : List (String × Uid)), (∀ e ∈ lvis, (rvis.find? (·.1 == e.1)).isSome = true) →
      (lvis.map (·.1)).mapM (pickByName (rvis.map (·.2)) d) = .ok (rselOf lvis rvis)
  | [], _ => rfl
  | e :: es, h => by
      have he := h e (List.mem_cons_self ..)
      have ih := mapM_find d rvis hname es (fun x hx => h x (List.mem_cons_of_mem _ hx))
      simp only [List.map_cons, List.mapM_cons, pickByName, find_by_name d.name e.1 rvis hname]
      cases hf : rvis.find? (·.1 == e.1) with
      | none => simp [hf] at he
      | some x =>
        simp only [Option.map_some, bind, Except.bind, pure, Except.pure, ih]
        simp [rselOf, hf]

theorem rselOf_same (lvis rvis : List (String × Uid)) (hnd : (rvis.map (·.1)).Nodup) (heq : lvis.map (·.1) = rvis.map (·.1)) :
    rselOf lvis rvis = rvis.map (·.2) := by
  have hlen : lvis.length = rvis.length := by simpa using congrArg List.length heq
  unfold rselOf
  apply List.ext_getElem
  · simpa using hlen
  · intro k h1 h2
    simp only [List.length_map] at h1 h2
    simp only [List.getElem_map]
    have hk : lvis[k].1 = rvis[k].1 := by
      have := congrArg (fun l => l[k]?) heq
      simpa [h1, h2] using this
    rw [hk, Pdt.find_of_mem_nodup (·.1) hnd (List.getElem_mem h2)]

theorem rselOf_mem (lvis rvis : List (String × Uid)) (hsame : ∀ e ∈ lvis, (rvis.find? (·.1 == e.1)).isSome = true) :
    ∀ u ∈ rselOf lvis rvis, ∃ e ∈ rvis, e.2 = u := by
  intro u hu
  obtain ⟨e, he, rfl⟩ := List.mem_map.1 hu
  have := hsame e he
  cases hf : rvis.find? (·.1 == e.1) with
  | none => simp [hf] at this
  | some x => exact ⟨x, List.mem_of_find?_eq_some hf, by simp⟩

theorem filterRows_nil (rows : List Row) : filterRows rows [] = rows := C02.filter_no_predicate rows

theorem projTo_eq (lvis tvis : List (String × Uid)) (hsame : ∀ e ∈ lvis, (tvis.find? (·.1 == e.1)).isSome = true) (s : Row) :
    projTo lvis tvis s = (lvis.map (·.2)).zip ((rselOf lvis tvis).map s.get) := by
  unfold rselOf projTo
  rw [List.map_map, List.zip_map']
  refine List.map_congr_left (fun e he => ?_)
  obtain ⟨x, hx⟩ := Option.isSome_iff_exists.1 (hsame e he)
  simp only [hx, Function.comp_apply]

/-- `lrows` / `rrows` of the union branch of `evalSrc`, for an operand with the invariant -/
theorem operand_rows {db : DB} {sc : List Uid} {r : Compiled} {t : STbl} (h : Inv db sc r t) (lvis : List (String × Uid))
    (hsame : ∀ e ∈ lvis, (t.visible.find? (·.1 == e.1)).isSome = true) :
    (evalSelect (evalSrc db r.src) { r.query with select := rselOf lvis t.visible } r.defs).map
        (fun row => (lvis.map (·.2)).zip ((rselOf lvis t.visible).map row.get)) =
      t.rows.map (projTo lvis t.visible) := by
  rw [inv_rows db sc r t h _ (fun u hu => by obtain ⟨e, he, rfl⟩ := rselOf_mem _ _ hsame u hu; exact h.hvis e he), List.map_map]
  refine List.map_congr_left (fun s _ => ?_)
  rw [Function.comp_apply, Row.map_get_zip_map, projTo_eq _ _ hsame]

theorem union_inv {lc rc : Ast} {scl scr : List Uid} (hl : Base lc scl) (hr : Base rc scr) (db : DB) (i : NodeId) (d : Bool)
    (hnl : ((Spec.run db lc).visible.map (·.1)).Nodup) (hnr : ((Spec.run db rc).visible.map (·.1)).Nodup)
    (hsame : ∀ e ∈ (Spec.run db lc).visible, ((Spec.run db rc).visible.find? (·.1 == e.1)).isSome = true)
    (needed : Needed) :
    ∃ r n', compile (.union i lc rc d) needed = .ok (r, n') ∧
      Inv db ((Spec.run db lc).visible.map (·.2)) r (Spec.run db (.union i lc rc d)) := by
  obtain ⟨l, n1, hcl, invl⟩ := hl.ref db ((unionCols lc rc d).foldl Needed.incr needed)
  obtain ⟨r, n2, hcr, invr⟩ := hr.ref db n1
  have hln := invl.toO.labels
  have hrn := invr.toO.labels
  have hrsel : (if (l.query.select.map l.defs.name == r.query.select.map r.defs.name) = true then (.ok r.query.select : Except CErr (List Uid))
      else (l.query.select.map l.defs.name).mapM (pickByName r.query.select r.defs)) =
        .ok (rselOf (Spec.run db lc).visible (Spec.run db rc).visible) := by
    rw [hln, hrn, invr.hsel]
    split
    · rename_i heq
      rw [rselOf_same _ _ hnr (by simpa using heq)]
    · exact mapM_find r.defs _ invr.hname _ hsame
  -- `cols` gets an opaque name so that `rw` / `simp` do not look inside it; `Dtype.null` is the dtype of the `Expr.col u .null`
  -- that the union branch of `compile` defines every column by, so that these definitions are `colDefs cols` (`hD`)
  obtain ⟨cols, hcols⟩ : ∃ cols : List (String × Uid × Dtype), cols = (Spec.run db lc).visible.map (fun e => (e.1, e.2, Dtype.null)) := ⟨_, rfl⟩
  have hsc : (Spec.run db lc).visible.map (·.2) = cols.map (·.2.1) := by rw [hcols, List.map_map]; rfl
  have hvis : (Spec.run db lc).visible = cols.map (fun c => (c.1, c.2.1)) := by rw [hcols, List.map_map]; exact (List.map_id _).symm
  have hS : l.query.select = cols.map (·.2.1) := invl.hsel.trans hsc
  have hD : l.query.select.map (fun u => (u, l.defs.name u, Expr.col u .null .elementWise)) = colDefs cols := by
    rw [invl.hsel, hcols, colDefs, List.map_map, List.map_map]
    exact List.map_congr_left (fun e he => by simp only [Function.comp_apply, invl.hname e he])
  refine ⟨⟨.union l.src l.query l.defs r.src { r.query with select := rselOf (Spec.run db lc).visible (Spec.run db rc).visible } r.defs d
      l.query.select, { select := l.query.select, partitionBy := [] },
      l.query.select.map (fun u => (u, l.defs.name u, Expr.col u .null .elementWise))⟩, (unionCols lc rc d).foldl Needed.decr n2, ?_, ?_⟩
  · simp only [compile, hcl, hcr, bind, Except.bind, pure, Except.pure, hrsel, hr.pb _ r n2 hcr, invr.hg, List.isEmpty_nil, Bool.not_true,
      Bool.or_self, Bool.false_eq_true, ↓reduceIte]
  have hndu : ((Spec.run db lc).visible.map (·.2)).Nodup :=
    List.Pairwise.of_map l.defs.name (fun _ _ h hab => h (congrArg _ hab)) (invl.hsel ▸ hln ▸ hnl)
  rw [hD, hS, hsc]
  refine Inv.ofCols db _ cols (hsc ▸ hndu) ?_ hvis (fun b hb e he => ?_)
  · have hL := operand_rows invl (Spec.run db lc).visible (fun e he => List.find?_isSome.2 ⟨e, he, beq_self_eq_true _⟩)
    rw [rselOf_same _ _ hnl rfl, ← invl.hsel] at hL
    have hR := operand_rows invr (Spec.run db lc).visible hsame
    rw [← invl.hsel] at hR
    rw [run_union, evalSrc, ← hS, hL, hR]
  · rw [← hsc, ← union_no_hidden db i lc rc d b hb]
    exact List.mem_map.2 ⟨e, he, rfl⟩

/-- **refinement for `union`**: `union(l, r, distinct=d)` of two base pipelines (`C01.Base`: the row-level fragment, joins of source
    tables followed by row-level verbs) compiles and evaluates to the reference frame - the rows of both, the right ones matched
    to the left columns by name, without duplicates when `d` - if the visible names of each operand are distinct and every
    left name occurs on the right -/
theorem sql_refines_spec_union {lc rc : Ast} {scl scr : List Uid} (hl : Base lc scl) (hr : Base rc scr) (db : DB) (i : NodeId) (d : Bool)
    (hnl : ((Spec.run db lc).visible.map (·.1)).Nodup) (hnr : ((Spec.run db rc).visible.map (·.1)).Nodup)
    (hsame : ∀ e ∈ (Spec.run db lc).visible, ((Spec.run db rc).visible.find? (·.1 == e.1)).isSome = true)
    (needed : Needed) :
    ∃ r n', compile (.union i lc rc d) needed = .ok (r, n') ∧ Sql.run db r = (Spec.run db (.union i lc rc d)).frame := by
  obtain ⟨r, n', hc, inv⟩ := union_inv hl hr db i d hnl hnr hsame needed
  exact ⟨r, n', hc, inv_refines db _ r _ inv⟩

/-- non-vacuity: `t >> select(a, b)` united with `u >> rename(x → a) >> select(b, a)` (other order, other identities) -/
example (db : DB) :
    let lc : Ast := .source 1 "t" [("a", 10, .int64), ("b", 11, .int64)] .sqlite
    let rc : Ast := .select 4 (.rename 3 (.source 2 "u" [("x", 20, .int64), ("b", 21, .int64)] .sqlite) [("x", "a")])
      [(21, ⟨"b", .int64, .elementWise⟩), (20, ⟨"a", .int64, .elementWise⟩)]
    (∃ scl, Frag lc scl) ∧ (∃ scr, Frag rc scr) ∧
    ((Spec.run db lc).visible.map (·.1)).Nodup ∧ ((Spec.run db rc).visible.map (·.1)).Nodup ∧
    (∀ e ∈ (Spec.run db lc).visible, ((Spec.run db rc).visible.find? (·.1 == e.1)).isSome = true) := by
  refine ⟨⟨_, Frag.source 1 "t" _ .sqlite (by decide)⟩,
    ⟨_, Frag.select 4 _ (Frag.rename 3 _ (Frag.source 2 "u" _ .sqlite (by decide))) ?_⟩, ?_, ?_, ?_⟩
  · intro db cu hcu
    simp only [List.mem_cons, List.not_mem_nil, or_false] at hcu
    rcases hcu with rfl | rfl
    · exact ⟨("b", 21), .tail _ (.head _), rfl⟩
    · exact ⟨("a", 20), .head _, rfl⟩
  · exact (by decide : ["a", "b"].Nodup)
  · exact (by decide : ["b", "a"].Nodup)
  · exact (by decide : ∀ e ∈ [("a", 10), ("b", 11)], ([("b", 21), ("a", 20)].find? (·.1 == e.1)).isSome = true)

end Pdt.C07
