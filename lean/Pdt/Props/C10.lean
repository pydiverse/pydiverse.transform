/-
  C10 — tables and expressions are immutable values (the part that is logic: the copy-then-rebind
  discipline of `preprocess_arg` / `map_children`, as a heap model).
-/
import Pdt.Model.Heap

namespace Pdt.C10
open Pdt Pdt.Heap

def Ext (h h' : H) : Prop := h.size ≤ h'.size ∧ ∀ i, i < h.size → h'.get i = h.get i

theorem ext_refl (h : H) : Ext h h := ⟨Nat.le_refl _, fun _ _ => rfl⟩

theorem ext_trans {a b c : H} (h1 : Ext a b) (h2 : Ext b c) : Ext a c :=
  ⟨Nat.le_trans h1.1 h2.1, fun i hi => by rw [h2.2 i (Nat.lt_of_lt_of_le hi h1.1), h1.2 i hi]⟩

theorem ext_alloc (h : H) (o : Obj) : Ext h (h.alloc o).1 := by
  refine ⟨by simp [H.alloc, H.size], ?_⟩
  intro i hi
  simp only [H.size] at hi
  simp [H.alloc, H.get, List.getElem?_append_left hi]

theorem ext_set_fresh {h h1 : H} (e : Ext h h1) (n : Addr) (o : Obj) (hn : h.size ≤ n) : Ext h (h1.set n o) := by
  refine ⟨by simpa [H.set, H.size] using e.1, ?_⟩
  intro i hi
  have hne : n ≠ i := Nat.ne_of_gt (Nat.lt_of_lt_of_le hi hn)
  have := e.2 i hi
  simp only [H.set, H.get] at this ⊢
  rw [List.getElem?_set_ne hne]
  exact this

def Frame (g : H → Addr → H × Addr) : Prop := ∀ h a, Ext h (g h a).1

theorem mapHeap_ext (g : H → Addr → H × Addr) (hg : Frame g) : ∀ (l : List Addr) (h : H), Ext h (mapHeap g h l).1
  | [], h => ext_refl h
  | a :: as, h => by
      simp only [mapHeap]
      exact ext_trans (hg h a) (mapHeap_ext g hg as _)

theorem mapEntries_ext (g : H → Addr → H × Addr) (hg : Frame g) :
    ∀ (es : List (String × Addr)) (h : H), Ext h (mapEntries g h es).1
  | [], h => ext_refl h
  | (k, la) :: es, h => by
      simp only [mapEntries]
      exact ext_trans (ext_trans (mapHeap_ext g hg _ h) (ext_alloc _ _)) (mapEntries_ext g hg es _)

theorem injectStep_ext (inject : Option Addr) (base h : H) (n : Addr) (op : String) (aw : Bool) (args ctx : Addr)
    (e : Ext base h) (hn : base.size ≤ n) : Ext base (injectStep inject h n op aw args ctx).1 := by
  unfold injectStep
  simp only
  split
  · split
    · exact e
    · exact ext_set_fresh (ext_trans e (ext_alloc _ _)) _ _ hn
  · exact e

theorem rebuild_ext (g : H → Addr → H × Addr) (hg : Frame g) (base h : H) (n : Addr) (op : String) (aw : Bool) (args : Addr)
    (entries : List (String × Addr)) (e : Ext base h) (hn : base.size ≤ n) : Ext base (rebuild g h n op aw args entries) := by
  unfold rebuild
  refine ext_set_fresh ?_ _ _ hn
  exact ext_trans e (ext_trans (mapHeap_ext g hg _ _) (ext_trans (ext_alloc _ _) (ext_trans (mapEntries_ext g hg _ _) (ext_alloc _ _))))

/-- **frame theorem**: `preprocess_arg` never changes an object that existed before the call — for
    every heap, every expression (any depth, any sharing between sub-expressions), grouped or not -/
theorem pre_frame (inject : Option Addr) : ∀ (f : Nat), Frame (pre inject f)
  | 0 => fun h _ => ext_refl h
  | f + 1 => by
      intro h a
      have ih : Frame (preWith injectStep inject f) := pre_frame inject f
      unfold pre preWith
      split
      · rename_i op aw args ctx _
        have hn : h.size ≤ (h.alloc (.node op aw args ctx)).2 := by simp [H.alloc, H.size]
        exact rebuild_ext _ ih h _ _ _ _ _ _ (injectStep_ext inject h _ _ _ _ _ _ (ext_alloc h _) hn) hn
      · exact ext_alloc h _
      · exact ext_refl h

/-- so the user's expression object, its argument list and its context-kwargs dict can be used again
    under another grouping state or in `summarize` -/
theorem pre_keeps_argument (inject : Option Addr) (f : Nat) (h : H) (a : Addr) (i : Addr) (hi : i < h.size) :
    (pre inject f h a).1.get i = h.get i := (pre_frame inject f h a).2 i hi

/-- for a `ColFn` argument the result is a new object -/
theorem pre_result_fresh (inject : Option Addr) (f : Nat) (h : H) (a : Addr) (op : String) (aw : Bool) (args ctx : Addr)
    (ha : h.get a = some (.node op aw args ctx)) : (pre inject (f + 1) h a).2 = h.size := by
  unfold pre preWith
  simp only [ha]
  rfl

/-! The defect D6 in the model: the in-place dict update is *not* a frame.  `demoHeap`: `x.sum()` at
address 3 (argument list 1, context dict 2); the partition list `[g]` at 5. -/

def demoHeap : H := ⟨[.leaf "x", .lst [0], .dict [], .node "sum" true 1 2, .leaf "g", .lst [4]]⟩

/-- on a grouped table the repaired code leaves the user's dict empty … -/
example : (pre (some 5) 3 demoHeap 3).1.get 2 = some (.dict []) := by decide +kernel
/-- … while the code before the repair wrote `partition_by` into it -/
theorem D6_regression : (preBuggy (some 5) 3 demoHeap 3).1.get 2 = some (.dict [("partition_by", 5)]) := by decide +kernel

/-- and the copy carries the injected partition -/
example : (match (pre (some 5) 3 demoHeap 3).1.get 6 with
    | some (.node "sum" _ _ d) => (entriesOf (pre (some 5) 3 demoHeap 3).1 d).any (·.1 == "partition_by")
    | _ => false) = true := by decide +kernel

end Pdt.C10
