import Pdt.Props.C13Check
namespace Pdt.C13
theorem share4_ok : (share 8 4 sigLists).all checkSigs = true := by decide +kernel
end Pdt.C13
