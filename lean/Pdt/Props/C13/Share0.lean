import Pdt.Props.C13Check
namespace Pdt.C13
theorem share0_ok : (share 8 0 sigLists).all checkSigs = true := by decide +kernel
end Pdt.C13
