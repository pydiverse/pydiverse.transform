import Pdt.Props.C13Check
namespace Pdt.C13
theorem share3_ok : (share 8 3 sigLists).all checkSigs = true := by decide +kernel
end Pdt.C13
