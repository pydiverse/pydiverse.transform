import Pdt.Props.C13Check
namespace Pdt.C13
theorem share6_ok : (share 8 6 sigLists).all checkSigs = true := by decide +kernel
end Pdt.C13
