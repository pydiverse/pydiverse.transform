import Pdt.Props.C13Check
namespace Pdt.C13
theorem share5_ok : (share 8 5 sigLists).all checkSigs = true := by decide +kernel
end Pdt.C13
