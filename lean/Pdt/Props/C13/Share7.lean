import Pdt.Props.C13Check
namespace Pdt.C13
theorem share7_ok : (share 8 7 sigLists).all checkSigs = true := by decide +kernel
end Pdt.C13
