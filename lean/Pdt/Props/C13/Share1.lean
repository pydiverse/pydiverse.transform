import Pdt.Props.C13Check
namespace Pdt.C13
theorem share1_ok : (share 8 1 sigLists).all checkSigs = true := by decide +kernel
end Pdt.C13
