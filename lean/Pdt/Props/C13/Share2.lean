import Pdt.Props.C13Check
namespace Pdt.C13
theorem share2_ok : (share 8 2 sigLists).all checkSigs = true := by decide +kernel
end Pdt.C13
