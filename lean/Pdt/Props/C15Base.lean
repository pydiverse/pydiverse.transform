/-
  C15 on the SQL side: two pipelines with the row-level invariant (`C01.Refines`: row-level pipelines, joins of source tables
  followed by row-level verbs) and the same reference table compile to SELECTs with the same result, as both export that
  table's frame (`refines_transport`).  So the equivalences of C15 / C15Extra, read as equalities of whole tables (`stbl_eq`),
  hold of the SQL the compiler emits; `inner_join(on)` = `cross_join >> filter(on)` is one of them.
-/
import Pdt.Props.C06Sql
import Pdt.Props.C15Extra
namespace Pdt.C15
open Pdt Pdt.Spec Pdt.Sql Pdt.C01 Pdt.C06

theorem rename_inverse_table (db : DB) (i j : NodeId) (c : Ast) (a b : String)
    (hb : ∀ e ∈ (Spec.run db c).visible, e.1 ≠ b ∨ a = b) :
    Spec.run db (.rename j (.rename i c [(a, b)]) [(b, a)]) = Spec.run db c :=
  stbl_eq _ _ (rename_inverse db i j c a b hb).2 (rename_inverse db i j c a b hb).1 rfl

theorem mutate_split_table (db : DB) (i j k : NodeId) (c : Ast) (na nb : String) (ea eb : Expr) (ua ub : Uid)
    (ma mb : Dtype × Ftype) (hne : na ≠ nb)
    (ha : isEwise ea = true) (hb : isEwise eb = true)
    (hcols : ∀ r ∈ (Spec.run db c).rows, ∀ u ∈ eb.uids, (r.find? (·.1 == u)).isSome = true) :
    Spec.run db (.mutate j (.mutate i c [na] [ea] [ua] [ma]) [nb] [eb] [ub] [mb]) =
      Spec.run db (.mutate k c [na, nb] [ea, eb] [ua, ub] [ma, mb]) :=
  stbl_eq _ _ (mutate_split_rows db i j k c na nb ea eb ua ub ma mb ha hb hcols)
    (mutate_split_visible db i j k c na nb ea eb ua ub ma mb hne) rfl

theorem refines_filter {c : Ast} {sc : List Uid} (h : Refines c sc) (i : NodeId) (preds : List Expr)
    (hp : isEwiseList preds = true) (hu : ∀ u ∈ Expr.uidsList preds, u ∈ sc) : Refines (.filter i c preds) sc :=
  fun db nd => filter_inv db sc i c preds hp hu (h db) nd

theorem refines_rename {c : Ast} {sc : List Uid} (h : Refines c sc) (i : NodeId) (m : List (String × String)) :
    Refines (.rename i c m) sc :=
  fun db nd => rename_inv db sc i c m (h db) nd

theorem jfrag_base {c : Ast} {sc : List Uid} (h : JFrag c sc) : Refines c sc := h.base.ref

theorem refines_transport {a b : Ast} {sa sb : List Uid} (ha : Refines a sa) (hb : Refines b sb) (db : DB)
    (heq : Spec.run db a = Spec.run db b) (na nb : Needed) :
    ∃ ra na' rb nb', compile a na = .ok (ra, na') ∧ compile b nb = .ok (rb, nb') ∧ Sql.run db ra = Sql.run db rb := by
  obtain ⟨ra, na', hca, ia⟩ := ha db na
  obtain ⟨rb, nb', hcb, ib⟩ := hb db nb
  exact ⟨ra, na', rb, nb', hca, hcb, by rw [inv_refines db sa ra _ ia, inv_refines db sb rb _ ib, heq]⟩

theorem sql_filter_split_base {c : Ast} {sc : List Uid} (h : Refines c sc) (db : DB) (i j k : NodeId) (p q : List Expr)
    (hp : isEwiseList p = true) (hq : isEwiseList q = true)
    (hpu : ∀ u ∈ Expr.uidsList p, u ∈ sc) (hqu : ∀ u ∈ Expr.uidsList q, u ∈ sc) (n1 n2 : Needed) :
    ∃ r1 m1 r2 m2, compile (.filter j (.filter i c p) q) n1 = .ok (r1, m1) ∧ compile (.filter k c (p ++ q)) n2 = .ok (r2, m2) ∧
      Sql.run db r1 = Sql.run db r2 :=
  refines_transport (refines_filter (refines_filter h i p hp hpu) j q hq hqu)
    (refines_filter h k (p ++ q) (by simp [isEwiseList_append, hp, hq])
      (by intro u hu; rw [uidsList_append, List.mem_append] at hu; exact hu.elim (hpu u) (hqu u)))
    db (filter_split_table db i j k c p q hp hq) n1 n2

theorem sql_rename_inverse_base {c : Ast} {sc : List Uid} (h : Refines c sc) (db : DB) (i j : NodeId) (a b : String)
    (hb : ∀ e ∈ (Spec.run db c).visible, e.1 ≠ b ∨ a = b) (n1 n2 : Needed) :
    ∃ r1 m1 r2 m2, compile (.rename j (.rename i c [(a, b)]) [(b, a)]) n1 = .ok (r1, m1) ∧ compile c n2 = .ok (r2, m2) ∧
      Sql.run db r1 = Sql.run db r2 :=
  refines_transport (refines_rename (refines_rename h i _) j _) h db (rename_inverse_table db i j c a b hb) n1 n2

/-- over a join of two source tables followed by row-level verbs, `filter(p, q)` and `filter(p) >> filter(q)` give the same SQL result -/
theorem sql_filter_split_join {c : Ast} {sc : List Uid} (h : JFrag c sc) (db : DB) (i j k : NodeId) (p q : List Expr)
    (hp : isEwiseList p = true) (hq : isEwiseList q = true)
    (hpu : ∀ u ∈ Expr.uidsList p, u ∈ sc) (hqu : ∀ u ∈ Expr.uidsList q, u ∈ sc) (n1 n2 : Needed) :
    ∃ r1 m1 r2 m2, compile (.filter j (.filter i c p) q) n1 = .ok (r1, m1) ∧ compile (.filter k c (p ++ q)) n2 = .ok (r2, m2) ∧
      Sql.run db r1 = Sql.run db r2 :=
  sql_filter_split_base (jfrag_base h) db i j k p q hp hq hpu hqu n1 n2

theorem inner_eq_cross_filter_table (db : DB) (i j k : NodeId) (c r : Ast) (on : Expr) (h : isEwise on = true) :
    Spec.run db (.filter j (.join i c r (.lit (.bool true) .bool) .inner) [on]) = Spec.run db (.join k c r on .inner) :=
  stbl_eq _ _ (inner_eq_cross_filter db i j k c r on h) rfl rfl

/-- SQL: `t1 >> cross_join(t2) >> filter(on)` and `t1 >> inner_join(t2, on)` compile to SELECTs with the same result
    (`… FROM t1 JOIN t2 ON true WHERE on` and `… FROM t1 JOIN t2 ON on`), for every element-wise condition over the two tables -/
theorem sql_inner_eq_cross_filter (db : DB) (i j k j1 j2 : NodeId) (n1 n2 : String) (cols1 cols2 : List (String × Uid × Dtype))
    (be1 be2 : Backend) (on : Expr)
    (hnd : ((cols1.map (·.2.1)) ++ (cols2.map (·.2.1))).Nodup) (hon : isEwise on = true)
    (hou : ∀ u ∈ on.uids, u ∈ cols1.map (·.2.1) ++ cols2.map (·.2.1)) (m1 m2 : Needed) :
    ∃ r1 k1 r2 k2,
      compile (.filter j (.join i (.source j1 n1 cols1 be1) (.source j2 n2 cols2 be2) (.lit (.bool true) .bool) .inner) [on]) m1 = .ok (r1, k1) ∧
      compile (.join k (.source j1 n1 cols1 be1) (.source j2 n2 cols2 be2) on .inner) m2 = .ok (r2, k2) ∧
      Sql.run db r1 = Sql.run db r2 := by
  have fc : JFrag (.join i (.source j1 n1 cols1 be1) (.source j2 n2 cols2 be2) (.lit (.bool true) .bool) .inner) _ :=
    JFrag.join i j1 j2 n1 n2 cols1 cols2 be1 be2 (.lit (.bool true) .bool) .inner hnd (by simp [isEwise]) (by simp [Expr.uids])
  have f1 := JFrag.filter j [on] fc (by simp [isEwiseList, hon]) (by simpa [Expr.uidsList] using hou)
  have f2 := JFrag.join k j1 j2 n1 n2 cols1 cols2 be1 be2 on .inner hnd hon hou
  exact refines_transport (jfrag_base f1) (jfrag_base f2) db (inner_eq_cross_filter_table db i j k _ _ on hon) m1 m2

theorem refines_mutate {c : Ast} {sc : List Uid} (h : Refines c sc) (i : NodeId) (L : List (String × Uid × Expr)) (metas : List (Dtype × Ftype))
    (hv : isEwiseList (L.map (·.2.2)) = true) (hu : ∀ u ∈ Expr.uidsList (L.map (·.2.2)), u ∈ sc)
    (hfresh : ∀ t ∈ L, t.2.1 ∉ sc) (hnd : (L.map (·.2.1)).Nodup) :
    Refines (.mutate i c (L.map (·.1)) (L.map (·.2.2)) (L.map (·.2.1)) metas) (sc ++ L.map (·.2.1)) :=
  fun db nd => mutate_inv db sc i c L metas hv hu hfresh hnd (h db) nd

/-- SQL, over any base with the row-level invariant (a join included): `mutate(a = ea, b = eb)` = `mutate(a = ea) >> mutate(b = eb)`
    when `eb` reads only columns of the input -/
theorem sql_mutate_split_base {c : Ast} {sc : List Uid} (h : Refines c sc) (db : DB) (i j k : NodeId) (na nb : String) (ea eb : Expr)
    (ua ub : Uid) (ma mb : Dtype × Ftype) (hne : na ≠ nb) (hu : ua ≠ ub) (hua : ua ∉ sc) (hub : ub ∉ sc)
    (ha : isEwise ea = true) (hb : isEwise eb = true)
    (hau : ∀ u ∈ ea.uids, u ∈ sc) (hbu : ∀ u ∈ eb.uids, u ∈ sc)
    (hcols : ∀ r ∈ (Spec.run db c).rows, ∀ u ∈ eb.uids, (r.find? (·.1 == u)).isSome = true) (n1 n2 : Needed) :
    ∃ r1 m1 r2 m2, compile (.mutate j (.mutate i c [na] [ea] [ua] [ma]) [nb] [eb] [ub] [mb]) n1 = .ok (r1, m1) ∧
      compile (.mutate k c [na, nb] [ea, eb] [ua, ub] [ma, mb]) n2 = .ok (r2, m2) ∧ Sql.run db r1 = Sql.run db r2 := by
  have f1a : Refines (.mutate i c [na] [ea] [ua] [ma]) (sc ++ [ua]) :=
    refines_mutate h i [(na, ua, ea)] [ma] (by simp [isEwiseList, ha]) (by simpa [Expr.uidsList] using hau) (by simpa using hua) (by simp)
  have f1 : Refines (.mutate j (.mutate i c [na] [ea] [ua] [ma]) [nb] [eb] [ub] [mb]) (sc ++ [ua] ++ [ub]) :=
    refines_mutate f1a j [(nb, ub, eb)] [mb] (by simp [isEwiseList, hb])
      (by intro u hu'; have : u ∈ eb.uids := by simpa [Expr.uidsList] using hu'
          exact List.mem_append_left _ (hbu u this))
      (by simp [hub, Ne.symm hu]) (by simp)
  have f2 : Refines (.mutate k c [na, nb] [ea, eb] [ua, ub] [ma, mb]) (sc ++ [ua, ub]) :=
    refines_mutate h k [(na, ua, ea), (nb, ub, eb)] [ma, mb] (by simp [isEwiseList, ha, hb])
      (by intro u hu'; simp only [List.map_cons, List.map_nil, Expr.uidsList, List.append_nil, List.mem_append] at hu'
          exact hu'.elim (hau u) (hbu u))
      (by simp [hua, hub]) (by simp [hu])
  exact refines_transport f1 f2 db (mutate_split_table db i j k c na nb ea eb ua ub ma mb hne ha hb hcols) n1 n2

end Pdt.C15
