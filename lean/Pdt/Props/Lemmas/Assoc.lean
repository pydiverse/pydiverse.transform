/- Rows (`Spec.Row`) and definition maps (`Sql.Defs`) are association lists read by `find? (·.1 == u)`: their lookup lemmas. -/
import Pdt.Model.Sql
import Pdt.Props.Lemmas.Lists
import Pdt.Props.Lemmas.Dict

namespace Pdt
open Spec Sql

theorem find_map_key {α β} (k : α → Uid) (v : α → β) (L : List α) (u : Uid) :
    (L.map (fun t => (k t, v t))).find? (·.1 == u) = (L.find? (fun t => k t == u)).map (fun t => (k t, v t)) :=
  List.find?_map

namespace Spec

theorem Row.get_append (r s : Row) (u : Uid) :
    Row.get (r ++ s) u = if (r.find? (·.1 == u)).isSome then r.get u else s.get u := by
  unfold Row.get
  rw [List.find?_append]
  cases r.find? (·.1 == u) <;> rfl

theorem Row.get_map {α} (k : α → Uid) (g : α → Val) (L : List α) (u : Uid) :
    Row.get (L.map (fun t => (k t, g t))) u = ((L.find? (fun t => k t == u)).map g).getD .null := by
  unfold Row.get
  rw [find_map_key]
  cases L.find? (fun t => k t == u) <;> rfl

theorem Row.get_map_of_mem {α} (k : α → Uid) (g : α → Val) {L : List α} (hnd : (L.map k).Nodup) {t : α} (ht : t ∈ L) :
    Row.get (L.map (fun t => (k t, g t))) (k t) = g t := by
  rw [Row.get_map, find_of_mem_nodup k hnd ht]; rfl

/-- the rows `evalSelect` returns have this shape (`S` the select list) -/
theorem Row.get_zip_map (S : List Uid) (g : Uid → Val) {u : Uid} (h : u ∈ S) : Row.get (S.zip (S.map g)) u = g u := by
  have : S.zip (S.map g) = S.map (fun u => (u, g u)) := by
    conv => lhs; arg 1; rw [← List.map_id S]
    exact List.zip_map'
  rw [this, Row.get_map, find_beq_self h]; rfl

theorem Row.map_get_zip_map (S : List Uid) (g : Uid → Val) : S.map (Row.get (S.zip (S.map g))) = S.map g :=
  List.map_congr_left (fun _ hu => Row.get_zip_map S g hu)

end Spec

namespace Sql

theorem Defs.get_isSome_iff (d : Defs) (u : Uid) : (d.get u).isSome = true ↔ u ∈ d.map (·.1) := by
  unfold Defs.get
  rw [Option.isSome_map]
  exact find_key_isSome_iff d u

theorem Defs.get_append (d nd : Defs) (u : Uid) : Defs.get (d ++ nd) u = (d.get u).or (nd.get u) := by
  unfold Defs.get
  rw [List.find?_append]
  cases d.find? (·.1 == u) <;> rfl

theorem Defs.get_map {α} (k : α → Uid) (v : α → String × Expr) (L : List α) (u : Uid) :
    Defs.get (L.map (fun t => (k t, v t))) u = (L.find? (fun t => k t == u)).map v := by
  unfold Defs.get
  rw [find_map_key]
  cases L.find? (fun t => k t == u) <;> rfl

theorem Defs.get_map_of_mem {α} (k : α → Uid) (v : α → String × Expr) {L : List α} (hnd : (L.map k).Nodup) {t : α} (ht : t ∈ L) :
    Defs.get (L.map (fun t => (k t, v t))) (k t) = some (v t) := by
  rw [Defs.get_map, find_of_mem_nodup k hnd ht]; rfl

theorem Defs.name_of_get {d : Defs} {u : Uid} {n : String} {e : Expr} (h : d.get u = some (n, e)) : d.name u = n := by
  rw [Defs.name, h]; rfl

end Sql

namespace C01
open Sql

/-- `Defs.set` is `Cache.dictPut` -/
theorem foldl_set_fresh : ∀ (nd d : Defs), (∀ e ∈ nd, (d.get e.1).isSome = false) → (nd.map (·.1)).Nodup →
    nd.foldl (fun d e => d.set e.1 e.2) d = d ++ nd :=
  fun nd d hfresh hnd =>
    Cache.foldl_dictPut_fresh nd d (fun e he h => by simpa [(Defs.get_isSome_iff d e.1).2 h] using hfresh e he) hnd

end C01
end Pdt
