/-
  `Sql.compile` on the eight single-input verbs `select … group_by` (`isStep`): the compiler returns `(r2, n2)` for the
  verb exactly when it returned some `(r, n1)` for the child and `r2 = step nd r`, `n2 = up nd n1`.  For these verbs no
  proof elsewhere unfolds `compile` or the `Except` monad.
-/
import Pdt.Model.Sql

namespace Pdt.Sql

/-- the needed-columns counter as the child of a verb sees it, and as the verb hands it back -/
abbrev down (a : Ast) (n : Needed) : Needed := (uidsOfVerb a).foldl Needed.incr n
abbrev up (a : Ast) (n : Needed) : Needed := (uidsOfVerb a).foldl Needed.decr n

/-- the `defs` of the `mutate` and `summarize` branches of `compile` -/
def setDefs (d : Defs) (names : List String) (vals : List Expr) (uuids : List Uid) : Defs :=
  ((names.zip (uuids.zip vals)).map (fun nuv => (nuv.2.1, nuv.1, inline d nuv.2.2))).foldl (fun d e => d.set e.1 e.2) d

variable {c : Ast} {needed n2 : Needed} {r2 : Compiled} {i : NodeId}

theorem compile_source {name : String} {cols : List (String × Uid × Dtype)} {be : Backend} :
    compile (.source i name cols be) needed =
      .ok (⟨.table name (cols.map (·.2.1)), { select := cols.map (·.2.1), partitionBy := [] },
            cols.map (fun c => (c.2.1, c.1, Expr.col c.2.1 c.2.2 .elementWise))⟩, needed) := by
  simp only [compile]

/-- what a verb of `isStep` does to the record its child compiles to -/
def step : Ast → Compiled → Compiled
  | .select _ _ cols, r => { r with query := { r.query with select := cols.map (·.1) } }
  | .rename _ _ m, r => { r with defs := r.defs.map (fun e => (e.1, renameName m e.2.1, e.2.2)) }
  | .mutate _ _ names vals uuids _, r =>
      { r with query := { r.query with select := r.query.select.filter (fun u => !names.contains (r.defs.name u)) ++ uuids },
               defs := setDefs r.defs names vals uuids }
  | .filter _ _ preds, r =>
      { r with query := (if !r.query.groupBy.isEmpty then { r.query with having := r.query.having ++ preds }
                         else { r.query with where_ := r.query.where_ ++ preds }) }
  | .arrange _ _ ords, r => { r with query := { r.query with orderBy := ords ++ r.query.orderBy } }
  | .summarize _ _ names vals uuids _, r =>
      { r with query := { r.query with
                 groupBy := r.query.groupBy ++ (r.query.partitionBy.filter (fun p => !p.2)).map (·.1)
                 select := (r.query.partitionBy.map (·.1)).filter
                             (fun u => !names.contains ((setDefs r.defs names vals uuids).name u)) ++ uuids
                 partitionBy := []
                 orderBy := [] },
               defs := setDefs r.defs names vals uuids }
  | .sliceHead _ _ n off, r =>
      { r with query := (match r.query.limit with
          | none => { r.query with limit := some n, offset := some off }
          | some l => { r.query with limit := some (max (min (l - off) n) 0), offset := some ((r.query.offset.getD 0) + off) }) }
  | .groupBy _ _ cols add, r =>
      { r with query := { r.query with partitionBy :=
          (if add then r.query.partitionBy ++ cols.map (fun cu => (cu.1, cu.2.dtype.isConst))
           else cols.map (fun cu => (cu.1, cu.2.dtype.isConst))) } }
  | _, r => r

/-- the single-input verbs that always succeed on what the child returns and only rewrite its record: all but `alias`
    (renames the identities below it), `ungroup` (an assertion) and the marker -/
def isStep : Ast → Bool
  | .select .. | .rename .. | .mutate .. | .filter .. | .arrange .. | .summarize .. | .sliceHead .. | .groupBy .. => true
  | _ => false

/-- `rename` and `slice_head` mention no column: for them `down` and `up` are the identity -/
theorem compile_step (nd c : Ast) (hs : isStep nd = true) (hc : nd.child? = some c) (needed : Needed) :
    compile nd needed = (compile c (down nd needed)).map (fun p => (step nd p.1, up nd p.2)) := by
  cases nd <;> cases hs <;> cases hc <;> rw [compile] <;>
    simp only [down, up, uidsOfVerb, Ast.colRoots, List.flatMap_nil, List.foldl_nil] <;>
    generalize compile c _ = x <;> cases x <;> rfl

theorem compile_step_iff {nd : Ast} (hs : isStep nd = true) (hc : nd.child? = some c) :
    compile nd needed = .ok (r2, n2) ↔
      ∃ r n1, compile c (down nd needed) = .ok (r, n1) ∧ step nd r = r2 ∧ up nd n1 = n2 := by
  rw [compile_step nd c hs hc]
  cases compile c (down nd needed) with
  | error e => exact ⟨fun h => (by cases h), fun ⟨_, _, h, _⟩ => (by cases h)⟩
  | ok p => exact ⟨fun h => ⟨p.1, p.2, rfl, by cases h; exact ⟨rfl, rfl⟩⟩, fun ⟨_, _, h, h1, h2⟩ => by cases h; rw [← h1, ← h2]; rfl⟩

theorem compile_step_ok {nd : Ast} (hs : isStep nd = true) (hc : nd.child? = some c) {r : Compiled} {n1 : Needed}
    (h : compile c (down nd needed) = .ok (r, n1)) : compile nd needed = .ok (step nd r, up nd n1) :=
  (compile_step_iff hs hc).2 ⟨r, n1, h, rfl, rfl⟩

theorem compile_step_lift {nd : Ast} (hs : isStep nd = true) (hc : nd.child? = some c) {P Q : Compiled → Prop}
    (ih : ∀ needed, ∃ r n', compile c needed = .ok (r, n') ∧ P r) (hstep : ∀ r, P r → Q (step nd r)) (needed : Needed) :
    ∃ r n', compile nd needed = .ok (r, n') ∧ Q r := by
  obtain ⟨r, n', h, hp⟩ := ih (down nd needed)
  exact ⟨_, _, compile_step_ok hs hc h, hstep r hp⟩

/-- of these verbs only `group_by` makes `partitionBy` non-empty -/
theorem step_partitionBy_nil {nd : Ast} (hs : isStep nd = true) (hc : nd.child? = some c)
    (hg : ∀ j ch cols add, nd ≠ .groupBy j ch cols add)
    (ih : ∀ needed r n', compile c needed = .ok (r, n') → r.query.partitionBy = []) :
    ∀ needed r n', compile nd needed = .ok (r, n') → r.query.partitionBy = [] := by
  intro needed r n' h
  obtain ⟨r0, n0, hcc, rfl, -⟩ := (compile_step_iff hs hc).1 h
  have := ih _ r0 n0 hcc
  cases nd with
  | select | rename | mutate | arrange => exact this
  | filter | sliceHead => simp only [step]; split <;> exact this
  | summarize => rfl
  | groupBy j ch cols add => exact absurd rfl (hg j ch cols add)
  | _ => cases hs

end Pdt.Sql
