/- Column-at-a-time evaluation (`evalUnits`) of an element-wise expression is `evalRow` on the first row of every unit. -/
import Pdt.Props.Lemmas.ExprInd
import Pdt.Props.Lemmas.Lists

namespace Pdt.Spec

theorem transpose_pointwise {α} (f : α → Expr → Val) (xs : List α) (as : List Expr) :
    transpose (as.map (fun a => xs.map (fun x => f x a))) xs.length = xs.map (fun x => as.map (f x)) :=
  map_range_length xs _ _ (fun i hi => by simp [hi])

theorem pickBranch_map {α β} (xs : List α) (i : Nat) (hi : i < xs.length) (d : Val) (f g : β → α → Val) (bs : List β) :
    pickBranch i d (bs.map (fun b => xs.map (f b))) (bs.map (fun b => xs.map (g b))) =
      pickRow d (bs.map (fun b => f b xs[i])) (bs.map (fun b => g b xs[i])) := by
  induction bs with
  | nil => rfl
  | cons b bs ih => simp [pickBranch, pickRow, hi, ih]

theorem evalUnits_ewise (units : List Unit') : ∀ (e : Expr), isEwise e = true →
    evalUnits units e = units.map (fun u => evalRow (firstRow u) e) := by
  intro e
  induction e using Expr.ind with
  | col u _ _ => intro _; simp [evalUnits, evalRow]
  | lit v _ => intro _; simp [evalUnits, evalRow]
  | cast e t ih => intro h; simp [evalUnits, evalRow, ih h]
  | fn op args part arr ih _ _ =>
    intro h
    simp only [isEwise, Bool.and_eq_true, isEwiseList_iff] at h
    simp only [evalUnits, h.1.1.1, ↓reduceIte, evalList_eq_map, evalRow, evalRowList_eq_map]
    rw [List.map_congr_left (fun a ha => ih a ha (h.1.1.2 a ha)),
      transpose_pointwise (fun u a => evalRow (firstRow u) a) units args, List.map_map]
    rfl
  | case bs d ihB ihD =>
    intro h
    simp only [isEwise, Bool.and_eq_true, isEwiseBranches_iff] at h
    have hpick : ∀ (dflt : List Val), (∀ i (hi : i < units.length), dflt.getD i .null = evalRowOpt (firstRow units[i]) d) →
        (List.range units.length).map (fun i => pickBranch i (dflt.getD i .null) (evalBranchConds units bs) (evalBranchVals units bs)) =
          units.map (fun u => evalRow (firstRow u) (.case bs d)) := by
      intro dflt hd
      simp only [evalBranchConds_eq_map, evalBranchVals_eq_map, evalRow, evalRowConds_eq_map, evalRowVals_eq_map]
      rw [List.map_congr_left (fun b hb => (ihB b hb).1 (h.1 b hb).1), List.map_congr_left (fun b hb => (ihB b hb).2 (h.1 b hb).2)]
      exact map_range_length units _ _ (fun i hi => by rw [pickBranch_map units i hi, hd i hi])
    cases d with
    | none => exact hpick _ (fun i hi => by simp [evalRowOpt, hi])
    | some x => exact hpick _ (fun i hi => by simp [evalRowOpt, ihD x rfl h.2, hi])

theorem evalList_ewise (units : List Unit') : ∀ (l : List Expr), isEwiseList l = true →
    evalList units l = l.map (fun a => units.map (fun u => evalRow (firstRow u) a)) := by
  intro l h
  rw [evalList_eq_map]
  exact List.map_congr_left (fun a ha => evalUnits_ewise units a ((isEwiseList_iff l).1 h a ha))

theorem pick_ewise (units : List Unit') : ∀ (bs : List (Expr × Expr)), isEwiseBranches bs = true →
    ∀ (i : Nat) (hi : i < units.length) (d : Val),
      pickBranch i d (evalBranchConds units bs) (evalBranchVals units bs) =
        pickRow d (evalRowConds (firstRow units[i]) bs) (evalRowVals (firstRow units[i]) bs) := by
  intro bs h i hi d
  rw [isEwiseBranches_iff] at h
  rw [evalBranchConds_eq_map, evalBranchVals_eq_map, evalRowConds_eq_map, evalRowVals_eq_map,
    List.map_congr_left (fun b hb => evalUnits_ewise units b.1 (h b hb).1),
    List.map_congr_left (fun b hb => evalUnits_ewise units b.2 (h b hb).2)]
  exact pickBranch_map units i hi d _ _ bs

theorem evalCol_ewise (rows : List Row) (e : Expr) (h : isEwise e = true) :
    evalCol rows e = rows.map (fun r => evalRow r e) := by
  unfold evalCol singletons
  rw [evalUnits_ewise _ e h]
  simp [firstRow]

end Pdt.Spec
