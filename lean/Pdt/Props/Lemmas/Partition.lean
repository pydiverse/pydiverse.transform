/-
  `Spec.partitionIdx` (grouping for summarize, partitions of window functions) in closed form (`classes`, `foldl_pstep`):
  the distinct keys in order of first appearance, each with the positions that carry it.  That every index lands in
  exactly one group, that a group's members share its key and that different groups have different keys are read off it.
-/
import Pdt.Model.Spec
import Pdt.Props.Lemmas.Lists

namespace Pdt.Spec

abbrev Grp := List Val × List Nat

/-- the local `step` of `partitionIdx`, which cannot be named from outside -/
def pstep (acc : List Grp) (ik : Nat × List Val) : List Grp :=
  if acc.any (·.1 == ik.2) then acc.map (fun g => if g.1 == ik.2 then (g.1, g.2 ++ [ik.1]) else g)
  else acc ++ [(ik.2, [ik.1])]

/-- the groups with their keys (what `partitionIdx` forgets) -/
def partitionGroups (keys : List (List Val)) : List Grp := ((List.range keys.length).zip keys).foldl pstep []

theorem partitionIdx_groups (keys : List (List Val)) : partitionIdx keys = (partitionGroups keys).map (·.2) := rfl

theorem pstep_keys (acc : List Grp) (ik : Nat × List Val) :
    (pstep acc ik).map (·.1) = if acc.any (·.1 == ik.2) then acc.map (·.1) else acc.map (·.1) ++ [ik.2] := by
  unfold pstep
  split
  · rw [List.map_map]
    apply List.map_congr_left
    intro g _
    simp only [Function.comp_apply]
    split <;> rfl
  · simp

def classes (items : List (Nat × List Val)) : List Grp :=
  (items.map (·.2)).eraseDups.map (fun k => (k, (items.filter (·.2 == k)).map (·.1)))

theorem classes_keys (items : List (Nat × List Val)) : (classes items).map (·.1) = (items.map (·.2)).eraseDups := by
  rw [classes, List.map_map]
  exact List.map_id _

theorem pstep_classes (done : List (Nat × List Val)) (x : Nat × List Val) :
    pstep (classes done) x = classes (done ++ [x]) := by
  have hany : (classes done).any (·.1 == x.2) = (done.map (·.2)).contains x.2 := by
    rw [Bool.eq_iff_iff, List.any_eq_true, List.contains_iff_mem, ← List.mem_eraseDups, ← classes_keys, List.mem_map]
    exact ⟨fun ⟨g, hg, h⟩ => ⟨g, hg, beq_iff_eq.1 h⟩, fun ⟨g, hg, h⟩ => ⟨g, hg, beq_iff_eq.2 h⟩⟩
  have hnew : ∀ k, ((done ++ [x]).filter (·.2 == k)).map (·.1) =
      (done.filter (·.2 == k)).map (·.1) ++ if x.2 == k then [x.1] else [] := by
    intro k
    rw [List.filter_append, List.map_append, List.filter_cons, List.filter_nil]
    split <;> rfl
  rw [pstep, hany]
  -- `eraseDups (ks ++ [k])` becomes `eraseDups ks ++ (if ks.contains k = false then [k] else []).eraseDups` (`eraseDups_append`, `cons_removeAll`)
  simp only [classes, List.map_append, List.map_cons, List.map_nil, List.eraseDups_append, hnew, List.cons_removeAll,
    List.nil_removeAll]
  by_cases hx : (done.map (·.2)).contains x.2 = true
  · -- a known key: its class gains the position
    simp only [hx, if_true, Bool.true_eq_false, if_false, List.eraseDups_nil, List.map_nil, List.append_nil, List.map_map]
    refine List.map_congr_left (fun k _ => ?_)
    simp only [Function.comp_apply, Bool.beq_comm (a := k)]
    split <;> simp
  · -- a new key: no earlier item carries it, and it is none of the known keys
    have hno : done.filter (·.2 == x.2) = [] :=
      List.filter_eq_nil_iff.2 (fun y hy h => hx (List.contains_iff_mem.2 (List.mem_map.2 ⟨y, hy, beq_iff_eq.1 h⟩)))
    simp only [hx, if_true, Bool.false_eq_true, if_false, List.eraseDups_cons, List.filter_nil, List.eraseDups_nil,
      List.map_cons, List.map_nil, hno, beq_self_eq_true, List.nil_append]
    congr 1
    refine List.map_congr_left (fun k hk => ?_)
    have hk2 : (x.2 == k) = false :=
      beq_eq_false_iff_ne.2 (fun e => hx (List.contains_iff_mem.2 (e ▸ List.mem_eraseDups.1 hk)))
    rw [hk2]; simp

theorem foldl_pstep (items : List (Nat × List Val)) : items.foldl pstep [] = classes items := by
  suffices h : ∀ rest done, List.foldl pstep (classes done) rest = classes (done ++ rest) from h items []
  intro rest
  induction rest with
  | nil => intro done; rw [List.append_nil]; rfl
  | cons x xs ih => intro done; rw [List.foldl_cons, pstep_classes, ih, List.append_assoc]; rfl

/-- the state `acc` of the fold after the items `done` -/
structure PInv (acc : List Grp) (done : List (Nat × List Val)) : Prop where
  keys_nodup : (acc.map (·.1)).Nodup
  members : ∀ g ∈ acc, ∀ i ∈ g.2, (i, g.1) ∈ done
  covered : ∀ ik ∈ done, ∃ g ∈ acc, g.1 = ik.2 ∧ ik.1 ∈ g.2
  perm : (acc.flatMap (·.2)).Perm (done.map (·.1))
  nonempty : ∀ g ∈ acc, g.2 ≠ []

theorem pinv_classes (items : List (Nat × List Val)) : PInv (classes items) items where
  keys_nodup := by rw [classes_keys]; exact nodup_eraseDups _
  members g hg i hi := by
    obtain ⟨k, _, rfl⟩ := List.mem_map.1 hg
    obtain ⟨ik, hik, rfl⟩ := List.mem_map.1 hi
    exact beq_iff_eq.1 (List.mem_filter.1 hik).2 ▸ (List.mem_filter.1 hik).1
  covered ik hik :=
    ⟨_, List.mem_map.2 ⟨ik.2, List.mem_eraseDups.2 (List.mem_map_of_mem hik), rfl⟩, rfl,
      List.mem_map.2 ⟨ik, List.mem_filter.2 ⟨hik, beq_self_eq_true _⟩, rfl⟩⟩
  perm := by
    rw [classes, List.flatMap_map, ← List.map_flatMap]
    exact (flatMap_filter_perm (·.2) (nodup_eraseDups _) items
      (fun x hx => List.mem_eraseDups.2 (List.mem_map_of_mem hx))).map _
  nonempty g hg := by
    obtain ⟨k, hk, rfl⟩ := List.mem_map.1 hg
    obtain ⟨ik, hik, rfl⟩ := List.mem_map.1 (List.mem_eraseDups.1 hk)
    exact List.ne_nil_of_mem (List.mem_map.2 ⟨ik, List.mem_filter.2 ⟨hik, beq_self_eq_true _⟩, rfl⟩)

theorem pinv_final (keys : List (List Val)) :
    PInv (((List.range keys.length).zip keys).foldl pstep []) ((List.range keys.length).zip keys) := by
  rw [foldl_pstep]
  exact pinv_classes _

theorem partitionIdx_perm (keys : List (List Val)) : (partitionIdx keys).flatten.Perm (List.range keys.length) := by
  have h := (pinv_final keys).perm
  rw [List.flatMap_def, List.map_fst_zip (by simp)] at h
  exact h

theorem partitionIdx_nonempty (keys : List (List Val)) : ∀ g ∈ partitionIdx keys, g ≠ [] := by
  intro g hg
  obtain ⟨x, hx, rfl⟩ := List.mem_map.1 (partitionIdx_groups keys ▸ hg)
  exact (pinv_final keys).nonempty x hx

theorem mem_zip_range_iff {α} (l : List α) (i : Nat) (x : α) : (i, x) ∈ (List.range l.length).zip l ↔ l[i]? = some x := by
  rw [List.getElem?_eq_some_iff, List.mem_iff_getElem]
  simp only [List.length_zip, List.length_range, Nat.min_self, List.getElem_zip, List.getElem_range, Prod.mk.injEq]
  exact ⟨fun ⟨j, hj, hji, hx⟩ => hji ▸ ⟨hj, hx⟩, fun ⟨hi, hx⟩ => ⟨i, hi, rfl, hx⟩⟩

theorem partition_members (keys : List (List Val)) (g : Grp) (hg : g ∈ partitionGroups keys) (i : Nat) :
    i ∈ g.2 ↔ keys[i]? = some g.1 := by
  have inv := pinv_final keys
  rw [← mem_zip_range_iff]
  refine ⟨inv.members g hg i, fun hk => ?_⟩
  obtain ⟨g', hg', hk', hi'⟩ := inv.covered _ hk
  exact inj_of_nodup_map (·.1) inv.keys_nodup hg' hg hk' ▸ hi'

theorem partitionGroups_keys (keys : List (List Val)) : (partitionGroups keys).map (·.1) = keys.eraseDups := by
  rw [partitionGroups, foldl_pstep, classes_keys, List.map_snd_zip (by simp)]

theorem partition_keys_nodup (keys : List (List Val)) : ((partitionGroups keys).map (·.1)).Nodup := (pinv_final keys).keys_nodup

theorem partition_key_present (keys : List (List Val)) (k : List Val) :
    k ∈ (partitionGroups keys).map (·.1) ↔ k ∈ keys := by
  rw [partitionGroups_keys, List.mem_eraseDups]

/-- the left-hand side is the form of `groupsOf` and of the GROUP BY units of `Sql.evalSelect` -/
theorem partitionIdx_map_getD {α} (l : List α) (d : α) (key : α → List Val) :
    (partitionIdx (l.map key)).map (fun g => g.map (fun i => l.getD i d)) =
      (l.map key).eraseDups.map (fun k => l.filter (fun x => key x == k)) := by
  rw [partitionIdx_groups, partitionGroups, foldl_pstep, classes, List.map_snd_zip (by simp), List.map_map, List.map_map]
  refine List.map_congr_left (fun k _ => ?_)
  simp only [Function.comp_apply, List.length_map, List.map_map]
  exact zip_range_filter_getD l d key (· == k)

end Pdt.Spec
