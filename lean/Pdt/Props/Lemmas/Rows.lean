/-
  `filter` and `mutate` of the reference semantics in row-at-a-time form, for element-wise arguments; the value of an
  expression on a row depends on the columns it mentions only (`evalRow_congr`).
-/
import Pdt.Props.Lemmas.Pointwise
import Pdt.Props.Lemmas.Assoc

namespace Pdt.Spec

theorem keeps_cons (p : Expr) (ps : List Expr) (r : Row) : keeps (p :: ps) r = (evalRow r p == .bool true && keeps ps r) := rfl

theorem keeps_singleton (p : Expr) (r : Row) : keeps [p] r = (evalRow r p == .bool true) := Bool.and_true _

theorem filter_keeps_nil (rows : List Row) : rows.filter (keeps []) = rows := List.filter_eq_self.2 (fun _ _ => rfl)

theorem isEwiseList_singleton (e : Expr) : isEwiseList [e] = isEwise e := Bool.and_true _

theorem evalCols_ewise (rows : List Row) (l : List Expr) (h : isEwiseList l = true) :
    l.map (evalCol rows) = l.map (fun e => rows.map (fun r => evalRow r e)) :=
  List.map_congr_left (fun e he => evalCol_ewise rows e ((isEwiseList_iff l).1 h e he))

theorem matchRows_ewise (rows : List Row) (preds : List Expr) (h : isEwiseList preds = true) :
    matchRows rows preds = rows.map (keeps preds) := by
  unfold matchRows keeps
  rw [evalCols_ewise rows preds h]
  exact map_range_length rows _ _ (fun i hi => by simp [List.all_map, Function.comp_def, hi])

theorem filterRows_ewise (rows : List Row) (preds : List Expr) (h : isEwiseList preds = true) :
    filterRows rows preds = rows.filter (keeps preds) := by
  unfold filterRows
  rw [matchRows_ewise rows preds h, zip_filter_map]

theorem filterRows_filterRows (rows : List Row) (p q : List Expr) (hp : isEwiseList p = true) (hq : isEwiseList q = true) :
    filterRows (filterRows rows p) q = rows.filter (fun r => keeps p r && keeps q r) := by
  rw [filterRows_ewise _ p hp, filterRows_ewise _ q hq, List.filter_filter]
  exact List.filter_congr (fun r _ => Bool.and_comm ..)

theorem isEwiseList_append (a b : List Expr) : isEwiseList (a ++ b) = (isEwiseList a && isEwiseList b) := by
  rw [Bool.eq_iff_iff, Bool.and_eq_true, isEwiseList_iff, isEwiseList_iff, isEwiseList_iff, List.forall_mem_append]

theorem keeps_append (a b : List Expr) (r : Row) : keeps (a ++ b) r = (keeps a r && keeps b r) := List.all_append

/-- the left-hand side is the `rows` of the `mutate` branch of `Spec.run` -/
theorem mutate_rows_ewise (rows : List Row) (uuids : List Uid) (vals : List Expr) (h : isEwiseList vals = true) :
    (List.range rows.length).map (fun i =>
        (rows.getD i []) ++ (uuids.zip (vals.map (evalCol rows))).map (fun uc => (uc.1, uc.2.getD i .null))) =
      rows.map (fun r => r ++ uuids.zip (vals.map (evalRow r))) := by
  rw [evalCols_ewise rows vals h]
  refine map_range_length rows _ _ (fun i hi => ?_)
  simp [hi, List.zip_map_right, Prod.map]

theorem get_append_left2 (r s : Row) (u : Uid) (h : (r.find? (·.1 == u)).isSome = true) : Row.get (r ++ s) u = Row.get r u := by
  rw [Row.get_append, if_pos h]

theorem get_append_other (r s : Row) (u : Uid) (h : ∀ e ∈ s, e.1 ≠ u) : Row.get (r ++ s) u = Row.get r u := by
  unfold Row.get
  rw [List.find?_append]
  cases hf : r.find? (·.1 == u) with
  | some x => simp
  | none =>
    have : s.find? (·.1 == u) = none := by
      rw [List.find?_eq_none]; intro e he; simpa using h e he
    simp [this]

theorem evalRow_congr (r r' : Row) : ∀ (e : Expr), (∀ u ∈ e.uids, r'.get u = r.get u) → evalRow r' e = evalRow r e := by
  apply Expr.ind_uids
  case col => exact fun _ _ _ h => h
  case lit => exact fun _ _ => rfl
  case cast => exact fun e t ih => congrArg (Ops.castVal · t) ih
  case fn =>
    intro op args part arr ih _ _
    simp only [evalRow, evalRowList_eq_map]
    rw [List.map_congr_left ih]
  case case =>
    intro bs d ihB ihD
    simp only [evalRow, evalRowConds_eq_map, evalRowVals_eq_map]
    rw [List.map_congr_left (fun b hb => (ihB b hb).1), List.map_congr_left (fun b hb => (ihB b hb).2)]
    cases d with
    | none => rfl
    | some x => rw [evalRowOpt, evalRowOpt, ihD x rfl]

theorem evalRowList_congr (r r' : Row) : ∀ (l : List Expr), (∀ u ∈ Expr.uidsList l, r'.get u = r.get u) →
    evalRowList r' l = evalRowList r l := by
  intro l h
  rw [evalRowList_eq_map, evalRowList_eq_map]
  exact List.map_congr_left (fun e he => evalRow_congr r r' e (fun u hu => h u (Expr.mem_uidsList he hu)))

theorem evalRowConds_congr (r r' : Row) : ∀ (bs : List (Expr × Expr)), (∀ u ∈ Expr.uidsBranches bs, r'.get u = r.get u) →
    evalRowConds r' bs = evalRowConds r bs := by
  intro bs h
  rw [evalRowConds_eq_map, evalRowConds_eq_map]
  exact List.map_congr_left (fun b hb => evalRow_congr r r' b.1 (fun u hu => h u (Expr.mem_uidsBranches_cond hb hu)))

theorem evalRowVals_congr (r r' : Row) : ∀ (bs : List (Expr × Expr)), (∀ u ∈ Expr.uidsBranches bs, r'.get u = r.get u) →
    evalRowVals r' bs = evalRowVals r bs := by
  intro bs h
  rw [evalRowVals_eq_map, evalRowVals_eq_map]
  exact List.map_congr_left (fun b hb => evalRow_congr r r' b.2 (fun u hu => h u (Expr.mem_uidsBranches_val hb hu)))

theorem evalRow_append (r s : Row) : ∀ (e : Expr), (∀ u ∈ e.uids, (r.find? (·.1 == u)).isSome = true) →
    evalRow (r ++ s) e = evalRow r e :=
  fun e h => evalRow_congr r (r ++ s) e (fun u hu => get_append_left2 r s u (h u hu))

theorem evalRowList_append (r s : Row) : ∀ (l : List Expr), (∀ u ∈ Expr.uidsList l, (r.find? (·.1 == u)).isSome = true) →
    evalRowList (r ++ s) l = evalRowList r l :=
  fun l h => evalRowList_congr r (r ++ s) l (fun u hu => get_append_left2 r s u (h u hu))

theorem evalRowConds_append (r s : Row) : ∀ (bs : List (Expr × Expr)), (∀ u ∈ Expr.uidsBranches bs, (r.find? (·.1 == u)).isSome = true) →
    evalRowConds (r ++ s) bs = evalRowConds r bs :=
  fun bs h => evalRowConds_congr r (r ++ s) bs (fun u hu => get_append_left2 r s u (h u hu))

theorem evalRowVals_append (r s : Row) : ∀ (bs : List (Expr × Expr)), (∀ u ∈ Expr.uidsBranches bs, (r.find? (·.1 == u)).isSome = true) →
    evalRowVals (r ++ s) bs = evalRowVals r bs :=
  fun bs h => evalRowVals_congr r (r ++ s) bs (fun u hu => get_append_left2 r s u (h u hu))

theorem keeps_congr (preds : List Expr) (r r' : Row) (h : ∀ u ∈ Expr.uidsList preds, r'.get u = r.get u) :
    keeps preds r' = keeps preds r := by
  unfold keeps
  rw [Bool.eq_iff_iff, List.all_eq_true, List.all_eq_true]
  exact forall₂_congr (fun p hp => by rw [evalRow_congr r r' p (fun u hu => h u (Expr.mem_uidsList hp hu))])

end Pdt.Spec
