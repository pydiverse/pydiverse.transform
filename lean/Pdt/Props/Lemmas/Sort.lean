/-
  The reference semantics' stable insertion sort.  Permutation, sortedness and stability follow from where the insertion
  puts a new element (`insertBy_split`): behind a prefix of elements it is strictly after, in front of an element it is
  not after.
-/
import Pdt.Model.Spec

namespace Pdt.Spec

theorem insertBy_split {α} (cmp : α → α → Ordering) (x : α) (l : List α) :
    ∃ pre post, insertBy (fun a b => cmp a b != .gt) x l = pre ++ x :: post ∧ l = pre ++ post ∧
      (∀ y ∈ pre, cmp x y = .gt) ∧ ∀ z ∈ post.head?, cmp x z ≠ .gt := by
  induction l with
  | nil => exact ⟨[], [], rfl, rfl, by simp, by simp⟩
  | cons y ys ih =>
    unfold insertBy
    split
    · rename_i hxy
      exact ⟨[], y :: ys, rfl, rfl, by simp, by simpa using hxy⟩
    · rename_i hxy
      obtain ⟨pre, post, h1, h2, h3, h4⟩ := ih
      refine ⟨y :: pre, post, by rw [h1]; rfl, by rw [h2]; rfl, ?_, h4⟩
      intro z hz
      rcases List.mem_cons.1 hz with rfl | hz
      · simpa using hxy
      · exact h3 z hz

theorem stableSort_cons {α} (cmp : α → α → Ordering) (x : α) (l : List α) :
    stableSort cmp (x :: l) = insertBy (fun a b => cmp a b != .gt) x (stableSort cmp l) := rfl

theorem stableSort_perm {α} (cmp : α → α → Ordering) (l : List α) : (stableSort cmp l).Perm l := by
  induction l with
  | nil => exact List.Perm.refl _
  | cons x xs ih =>
    obtain ⟨pre, post, h1, h2, _⟩ := insertBy_split cmp x (stableSort cmp xs)
    rw [stableSort_cons, h1]
    exact List.perm_middle.trans ((h2 ▸ ih).cons x)

theorem stableSort_length {α} (cmp : α → α → Ordering) (l : List α) : (stableSort cmp l).length = l.length :=
  (stableSort_perm cmp l).length_eq

/-- the comparison need be a total preorder only on a set `S` that holds the elements of the list (`cmpKeys` is one on
    the tuples that fit the column families, KeyOrder.lean) -/
theorem stableSort_pairwise_on {α} (cmp : α → α → Ordering) (S : α → Prop)
    (htot : ∀ a b, S a → S b → cmp a b = .gt → cmp b a ≠ .gt)
    (htrans : ∀ a b c, S a → S b → S c → cmp a b ≠ .gt → cmp b c ≠ .gt → cmp a c ≠ .gt) (l : List α) (hS : ∀ y ∈ l, S y) :
    (stableSort cmp l).Pairwise (fun a b => cmp a b ≠ .gt) := by
  induction l with
  | nil => exact List.Pairwise.nil
  | cons x xs ih =>
    have hx : S x := hS x List.mem_cons_self
    have ih := ih (fun y hy => hS y (List.mem_cons_of_mem _ hy))
    obtain ⟨pre, post, h1, h2, hpre, hpost⟩ := insertBy_split cmp x (stableSort cmp xs)
    have hmem : ∀ y ∈ pre ++ post, S y := fun y hy => hS y (List.mem_cons_of_mem _ ((stableSort_perm cmp xs).mem_iff.1 (h2 ▸ hy)))
    rw [stableSort_cons, h1]
    rw [h2, List.pairwise_append] at ih
    refine List.pairwise_append.2 ⟨ih.1, List.pairwise_cons.2 ⟨?_, ih.2.1⟩, ?_⟩
    · -- `x` is not after the head of `post`, which is not after the rest
      cases post with
      | nil => simp
      | cons z zs =>
        have hz : S z := hmem z (by simp)
        intro w hw
        rcases List.mem_cons.1 hw with rfl | hw
        · exact hpost _ rfl
        · exact htrans x z w hx hz (hmem w (by simp [hw])) (hpost z rfl) ((List.pairwise_cons.1 ih.2.1).1 w hw)
    · intro a ha b hb
      rcases List.mem_cons.1 hb with rfl | hb
      · exact htot _ a hx (hmem a (by simp [ha])) (hpre a ha)
      · exact ih.2.2 a ha b hb

theorem stableSort_pairwise {α} (cmp : α → α → Ordering)
    (htot : ∀ a b, cmp a b = .gt → cmp b a ≠ .gt)
    (htrans : ∀ a b c, cmp a b ≠ .gt → cmp b c ≠ .gt → cmp a c ≠ .gt) (l : List α) :
    (stableSort cmp l).Pairwise (fun a b => cmp a b ≠ .gt) :=
  stableSort_pairwise_on cmp (fun _ => True) (fun a b _ _ => htot a b) (fun a b c _ _ _ => htrans a b c) l (fun _ _ => trivial)

theorem stableSort_sorted_id {α} (cmp : α → α → Ordering) (l : List α)
    (h : l.Pairwise (fun a b => cmp a b ≠ .gt)) : stableSort cmp l = l := by
  induction l with
  | nil => rfl
  | cons x xs ih =>
    rw [List.pairwise_cons] at h
    rw [stableSort_cons, ih h.2]
    cases xs with
    | nil => rfl
    | cons y ys =>
      have := h.1 y (by simp)
      simp [insertBy, this]

theorem stableSort_stable {α} (cmp : α → α → Ordering) (l : List α) (a b : α)
    (h : [a, b].Sublist l) (hab : cmp a b ≠ .gt) : [a, b].Sublist (stableSort cmp l) := by
  induction l with
  | nil => simp at h
  | cons x xs ih =>
    obtain ⟨pre, post, h1, h2, h3, _⟩ := insertBy_split cmp x (stableSort cmp xs)
    rw [stableSort_cons, h1]
    cases h with
    | cons _ h' => exact (h2 ▸ ih h').trans (List.Sublist.append (List.Sublist.refl _) (List.sublist_cons_self _ _))
    | cons_cons _ h' =>
      -- `b` is in the sorted tail, and not in the part `a` was moved behind
      have hb : b ∈ pre ++ post := h2 ▸ (stableSort_perm cmp xs).mem_iff.2 (by simpa using h'.subset)
      rcases List.mem_append.1 hb with hp | hp
      · exact absurd (h3 b hp) hab
      · exact (List.Sublist.cons_cons a (List.singleton_sublist.2 hp)).trans (List.sublist_append_right _ _)

end Pdt.Spec
