/-
  The key comparison of `arrange` is a total preorder on key tuples whose columns each hold values of one type
  family (integers, strings or booleans) and nulls: there it coincides with a comparison that is defined on all
  tuples and is a `Std.TransCmp` by construction (`cmpKey_fam`, `cmpKeys_eq_lexCmp`), so totality and transitivity
  are `Std`'s.  Floats, alone or mixed with integers, are not a family: `Ops.cmpVal` compares them by `<` / `==` of
  `Float`, which is not total once a NaN occurs (`.gt` in both directions).
-/
import Pdt.Model.Spec

namespace Pdt.Spec
open Std

/-- comparison of optional keys (`none` = null) under a comparator and a nulls_last flag -/
def cmpOpt {α} (c : α → α → Ordering) (last : Bool) : Option α → Option α → Ordering
  | none, none => .eq
  | none, some _ => if last then .gt else .lt
  | some _, none => if last then .lt else .gt
  | some x, some y => c x y

instance {α} (c : α → α → Ordering) [OrientedCmp c] (last : Bool) : OrientedCmp (cmpOpt c last) where
  eq_swap {a b} := by
    rcases a with _ | x <;> rcases b with _ | y <;> cases last <;> simp [cmpOpt]
    all_goals exact OrientedCmp.eq_swap

instance {α} (c : α → α → Ordering) [TransCmp c] (last : Bool) : TransCmp (cmpOpt c last) where
  isLE_trans {a b d} := by
    rcases a with _ | x <;> rcases b with _ | y <;> rcases d with _ | z <;> cases last <;> simp [cmpOpt]
    all_goals exact TransCmp.isLE_trans

def dirCmp {α} [_root_.Ord α] (desc : Bool) (x y : α) : Ordering := if desc then compare y x else compare x y

instance {α} [_root_.Ord α] [TransOrd α] (desc : Bool) : TransCmp (dirCmp (α := α) desc) := by
  cases desc
  · exact inferInstanceAs (TransCmp (fun x y : α => compare x y))
  · exact inferInstanceAs (TransCmp (fun x y : α => compare y x))

theorem ne_gt_trans {α} (c : α → α → Ordering) [TransCmp c] (x y z : α) (h1 : c x y ≠ .gt) (h2 : c y z ≠ .gt) : c x z ≠ .gt := by
  simp only [ne_eq, ← Ordering.isLE_iff_ne_gt] at h1 h2 ⊢
  exact TransCmp.isLE_trans h1 h2

theorem ne_gt_of_gt {α} (c : α → α → Ordering) [OrientedCmp c] (x y : α) (h : c x y = .gt) : c y x ≠ .gt := by
  rw [OrientedCmp.gt_iff_lt.1 h]
  decide

/-- how values of one key column are read as ordered keys: `mem` holds of the family's values and of null
    (among these `proj` is `none` exactly on null) -/
structure Fam (α : Type) [_root_.Ord α] where
  mem : Val → Bool
  proj : Val → Option α
  null_iff : ∀ v, mem v = true → v.isNull = (proj v).isNone
  cmp_eq : ∀ a b x y, mem a = true → mem b = true → proj a = some x → proj b = some y → Ops.cmpVal a b = some (compare x y)

def intFam : Fam Int where
  mem v := match v with | .null => true | .int _ => true | _ => false
  proj v := match v with | .int i => some i | _ => none
  null_iff v h := by cases v <;> simp_all [Val.isNull]
  cmp_eq a b x y ha hb hx hy := by
    cases a <;> cases b <;> simp_all [Ops.cmpVal]

def strFam : Fam String where
  mem v := match v with | .null => true | .str _ => true | _ => false
  proj v := match v with | .str s => some s | _ => none
  null_iff v h := by cases v <;> simp_all [Val.isNull]
  cmp_eq a b x y ha hb hx hy := by
    cases a <;> cases b <;> simp_all [Ops.cmpVal]

def boolFam : Fam Nat where
  mem v := match v with | .null => true | .bool _ => true | _ => false
  proj v := match v with | .bool b => some b.toNat | _ => none
  null_iff v h := by cases v <;> simp_all [Val.isNull]
  cmp_eq a b x y ha hb hx hy := by
    cases a <;> cases b <;> simp_all [Ops.cmpVal]

theorem cmpKey_fam {α} [_root_.Ord α] [OrientedOrd α] (F : Fam α) (desc : Bool) (nl : Option Bool) (a b : Val)
    (ha : F.mem a = true) (hb : F.mem b = true) :
    cmpKey desc nl a b = cmpOpt (dirCmp desc) (nl == some true) (F.proj a) (F.proj b) := by
  unfold cmpKey
  rw [F.null_iff a ha, F.null_iff b hb]
  cases hpa : F.proj a with
  | none => cases hpb : F.proj b <;> simp [cmpOpt]
  | some x =>
    cases hpb : F.proj b with
    | none => simp [cmpOpt]
    | some y =>
      simp only [Option.isNone_some, F.cmp_eq a b x y ha hb hpa hpb, cmpOpt, dirCmp]
      cases desc
      · rfl
      · rw [OrientedOrd.eq_swap (a := y) (b := x)]
        cases compare x y <;> rfl

theorem cmpKey_fam_total {α} [_root_.Ord α] [TransOrd α] (F : Fam α) (desc : Bool) (nl : Option Bool) (a b : Val)
    (ha : F.mem a = true) (hb : F.mem b = true) : cmpKey desc nl a b = .gt → cmpKey desc nl b a ≠ .gt := by
  rw [cmpKey_fam F desc nl a b ha hb, cmpKey_fam F desc nl b a hb ha]
  exact ne_gt_of_gt _ _ _

theorem cmpKey_fam_trans {α} [_root_.Ord α] [TransOrd α] (F : Fam α) (desc : Bool) (nl : Option Bool) (a b c : Val)
    (ha : F.mem a = true) (hb : F.mem b = true) (hc : F.mem c = true) :
    cmpKey desc nl a b ≠ .gt → cmpKey desc nl b c ≠ .gt → cmpKey desc nl a c ≠ .gt := by
  rw [cmpKey_fam F desc nl a b ha hb, cmpKey_fam F desc nl b c hb hc, cmpKey_fam F desc nl a c ha hc]
  exact ne_gt_trans _ _ _ _

inductive KFam where | int | str | bool
  deriving DecidableEq, Repr

def KFam.mem : KFam → Val → Bool
  | .int, v => intFam.mem v
  | .str, v => strFam.mem v
  | .bool, v => boolFam.mem v

def cmpOn {α β} (c : α → α → Ordering) (f : β → α) (x y : β) : Ordering := c (f x) (f y)

instance {α β} (c : α → α → Ordering) (f : β → α) [TransCmp c] : TransCmp (cmpOn c f) where
  eq_swap := OrientedCmp.eq_swap (cmp := c)
  isLE_trans := TransCmp.isLE_trans (cmp := c)

/-- `cmpKey` on family `k` (`cmpKey_kfam`), but defined on all values: a `TransCmp` without a side condition -/
def KFam.cmp (k : KFam) (d : Bool) (n : Option Bool) : Val → Val → Ordering :=
  match k with
  | .int => cmpOn (cmpOpt (dirCmp d) (n == some true)) intFam.proj
  | .str => cmpOn (cmpOpt (dirCmp d) (n == some true)) strFam.proj
  | .bool => cmpOn (cmpOpt (dirCmp d) (n == some true)) boolFam.proj

instance (k : KFam) (d : Bool) (n : Option Bool) : TransCmp (k.cmp d n) := by
  cases k <;> exact inferInstanceAs (TransCmp (cmpOn _ _))

theorem cmpKey_kfam (k : KFam) (d : Bool) (n : Option Bool) (a b : Val) (ha : k.mem a = true) (hb : k.mem b = true) :
    cmpKey d n a b = k.cmp d n a b := by
  cases k
  · exact cmpKey_fam intFam d n a b ha hb
  · exact cmpKey_fam strFam d n a b ha hb
  · exact cmpKey_fam boolFam d n a b ha hb

def lexCmp : List KFam → List (Bool × Option Bool) → List Val → List Val → Ordering
  | k :: ks, (d, n) :: sp => compareLex (cmpOn (k.cmp d n) (·.headD .null)) (cmpOn (lexCmp ks sp) List.tail)
  | _, _ => fun _ _ => .eq

theorem lexCmp_trans : ∀ (fams : List KFam) (spec : List (Bool × Option Bool)), TransCmp (lexCmp fams spec)
  | _ :: ks, _ :: sp =>
    have := lexCmp_trans ks sp
    inferInstanceAs (TransCmp (compareLex _ _))
  | [], _ => { eq_swap := rfl, isLE_trans := fun _ _ => rfl }
  | _ :: _, [] => { eq_swap := rfl, isLE_trans := fun _ _ => rfl }

instance (fams : List KFam) (spec : List (Bool × Option Bool)) : TransCmp (lexCmp fams spec) := lexCmp_trans fams spec

def fits : List KFam → List Val → Prop
  | [], [] => True
  | k :: ks, v :: vs => k.mem v = true ∧ fits ks vs
  | _, _ => False

theorem cmpKeys_eq_lexCmp : ∀ (fams : List KFam) (spec : List (Bool × Option Bool)) (a b : List Val),
    fits fams a → fits fams b → cmpKeys spec a b = lexCmp fams spec a b
  | k :: ks, (d, n) :: sp, a :: as, b :: bs, ha, hb => by
      simp only [cmpKeys, lexCmp, compareLex, cmpOn, List.headD_cons, List.tail_cons]
      rw [cmpKey_kfam k d n a b ha.1 hb.1, cmpKeys_eq_lexCmp ks sp as bs ha.2 hb.2]
      cases k.cmp d n a b <;> rfl
  | [], sp, [], [], _, _ => by cases sp <;> rfl
  | _ :: _, [], _, _, _, _ => by simp [cmpKeys, lexCmp]
  | [], _, _ :: _, _, ha, _ => by simp [fits] at ha
  | [], _, [], _ :: _, _, hb => by simp [fits] at hb
  | _ :: _, _ :: _, [], _, ha, _ => by simp [fits] at ha
  | _ :: _, _ :: _, _ :: _, [], _, hb => by simp [fits] at hb

theorem cmpKeys_total : ∀ (fams : List KFam) (spec : List (Bool × Option Bool)) (a b : List Val), spec.length = fams.length →
    fits fams a → fits fams b → cmpKeys spec a b = .gt → cmpKeys spec b a ≠ .gt := by
  intro fams spec a b _ ha hb
  rw [cmpKeys_eq_lexCmp fams spec a b ha hb, cmpKeys_eq_lexCmp fams spec b a hb ha]
  exact ne_gt_of_gt _ _ _

theorem cmpKeys_trans : ∀ (fams : List KFam) (spec : List (Bool × Option Bool)) (a b c : List Val), spec.length = fams.length →
    fits fams a → fits fams b → fits fams c → cmpKeys spec a b ≠ .gt → cmpKeys spec b c ≠ .gt → cmpKeys spec a c ≠ .gt := by
  intro fams spec a b c _ ha hb hc
  rw [cmpKeys_eq_lexCmp fams spec a b ha hb, cmpKeys_eq_lexCmp fams spec b c hb hc, cmpKeys_eq_lexCmp fams spec a c ha hc]
  exact ne_gt_trans _ _ _ _

end Pdt.Spec
