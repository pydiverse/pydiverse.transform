/-
  The defining equations of `Spec.run` that proofs rewrite with instead of unfolding `run` as a whole (none for `rename`,
  `ungroup`, `alias … none`); all `rfl`, `run_join` after `cases how`.  `summarizeUnits` and `joinRows`, defined here, name
  what `run` computes inline for the units of a `summarize` and the rows of a join.
-/
import Pdt.Model.Spec

namespace Pdt.Spec

theorem run_source (db : DB) (i : NodeId) (name : String) (cols : List (String × Uid × Dtype)) (be : Backend) :
    run db (.source i name cols be) =
      { rows := (((db.find? (·.1 == name)).map (·.2)).getD []).map (fun r => (cols.map (·.2.1)).zip r),
        visible := cols.map (fun c => (c.1, c.2.1)), group := [] } := rfl

theorem run_subqueryMarker (db : DB) (i : NodeId) (c : Ast) : run db (.subqueryMarker i c) = run db c := rfl

theorem run_alias_some (db : DB) (i : NodeId) (c : Ast) (mp : List (Uid × Uid)) (nm : String) :
    run db (.alias i c (some mp) nm) =
      { rows := (run db c).rows.map (fun r => r.map (fun e => (Cache.mapUidWith mp e.1, e.2))),
        visible := (run db c).visible.map (fun e => (e.1, Cache.mapUidWith mp e.2)),
        group := (run db c).group.map (Cache.mapUidWith mp) } := rfl

theorem run_select (db : DB) (i : NodeId) (c : Ast) (cols : List (Uid × ColMeta)) :
    run db (.select i c cols) =
      { run db c with visible := cols.filterMap (fun cu => (run db c).visible.find? (·.2 == cu.1)) } := rfl

theorem run_mutate (db : DB) (i : NodeId) (c : Ast) (names : List String) (vals : List Expr) (uuids : List Uid)
    (metas : List (Dtype × Ftype)) :
    run db (.mutate i c names vals uuids metas) =
      { run db c with
        rows := (List.range (run db c).rows.length).map (fun k =>
          (run db c).rows.getD k [] ++ (uuids.zip (vals.map (evalCol (run db c).rows))).map (fun uc => (uc.1, uc.2.getD k .null)))
        visible := (run db c).visible.filter (fun e => !names.contains e.1) ++ names.zip uuids } := rfl

theorem run_filter (db : DB) (i : NodeId) (c : Ast) (preds : List Expr) :
    run db (.filter i c preds) = { run db c with rows := filterRows (run db c).rows preds } := rfl

theorem run_arrange (db : DB) (i : NodeId) (c : Ast) (ords : List Ord) :
    run db (.arrange i c ords) = { run db c with rows := sortRows (run db c).rows ords } := rfl

theorem run_sliceHead (db : DB) (i : NodeId) (c : Ast) (n off : Int) :
    run db (.sliceHead i c n off) = { run db c with rows := ((run db c).rows.drop off.toNat).take n.toNat } := rfl

theorem run_groupBy (db : DB) (i : NodeId) (c : Ast) (cols : List (Uid × ColMeta)) (add : Bool) :
    run db (.groupBy i c cols add) =
      { run db c with group := if add then (run db c).group ++ cols.map (·.1) else cols.map (·.1) } := rfl

def summarizeUnits (t : STbl) : List Unit' := if t.group.isEmpty then [t.rows] else groupsOf t.rows t.group

theorem run_summarize (db : DB) (i : NodeId) (c : Ast) (names : List String) (vals : List Expr) (uuids : List Uid)
    (metas : List (Dtype × Ftype)) :
    run db (.summarize i c names vals uuids metas) =
      { rows := (List.range (summarizeUnits (run db c)).length).map (fun k =>
          (run db c).group.map (fun u => (u, (firstRow ((summarizeUnits (run db c)).getD k [])).get u)) ++
            (uuids.zip (vals.map (evalUnits (summarizeUnits (run db c))))).map (fun uc => (uc.1, uc.2.getD k .null)))
        visible := ((run db c).group.filterMap (fun u => (run db c).visible.find? (·.2 == u))).filter (fun e => !names.contains e.1) ++
          names.zip uuids
        group := [] } := rfl

/-- the SQL model's FROM clause computes a join by the same steps (`C06.evalSrc_join`) -/
def joinRows (lr rr : List Row) (on : Expr) (how : How) : List Row :=
  let pairs := lr.flatMap (fun l => rr.map (fun r => (l, r)))
  let matched := ((pairs.zip (matchRows (pairs.map (fun p => p.1 ++ p.2)) [on])).filter (·.2)).map (·.1)
  let inner := matched.map (fun p => p.1 ++ p.2)
  let leftPadded := (lr.filter (fun l => !matched.any (fun p => p.1 == l))).map (fun l => l ++ nullRow ((rr.headD []).map (·.1)))
  let rightPadded := (rr.filter (fun r => !matched.any (fun p => p.2 == r))).map (fun r => nullRow ((lr.headD []).map (·.1)) ++ r)
  match how with
  | .inner => inner
  | .left => inner ++ leftPadded
  | .full => inner ++ leftPadded ++ rightPadded

theorem run_join (db : DB) (i : NodeId) (c r : Ast) (on : Expr) (how : How) :
    run db (.join i c r on how) =
      { rows := joinRows (run db c).rows (run db r).rows on how, visible := (run db c).visible ++ (run db r).visible, group := [] } := by
  cases how <;> rfl

theorem run_union (db : DB) (i : NodeId) (c r : Ast) (distinct : Bool) :
    run db (.union i c r distinct) =
      { rows :=
          if distinct then
            (normNumCols ((run db c).rows.map (projTo (run db c).visible (run db c).visible) ++
              (run db r).rows.map (projTo (run db c).visible (run db r).visible))).eraseDups
          else (run db c).rows.map (projTo (run db c).visible (run db c).visible) ++
              (run db r).rows.map (projTo (run db c).visible (run db r).visible)
        visible := (run db c).visible, group := [] } := rfl

end Pdt.Spec
