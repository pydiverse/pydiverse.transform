/-
  `Cache.dictOf` (a Python dict built by repeated assignment) is a left fold; `dictPut` names its step, so that facts about
  a dict are statements about `rest.foldl dictPut acc`, proved by induction on `rest`.
-/
import Pdt.Model.Cache
import Pdt.Props.Lemmas.Lists

namespace Pdt.Cache
universe u v
variable {α : Type u} {β : Type v} [BEq α]

/-- `d[k] = v`: an existing key keeps its position and takes the new value -/
def dictPut (acc : List (α × β)) (kv : α × β) : List (α × β) :=
  if acc.any (·.1 == kv.1) then acc.map (fun e => if e.1 == kv.1 then kv else e) else acc ++ [kv]

theorem dictOf_eq_foldl (l : List (α × β)) : dictOf l = l.foldl dictPut [] := rfl

theorem mem_foldl_dictPut {y : α × β} : ∀ (rest acc : List (α × β)), y ∈ rest.foldl dictPut acc → y ∈ acc ∨ y ∈ rest
  | [], _, h => Or.inl h
  | kv :: rest, acc, h => by
      rcases mem_foldl_dictPut rest _ h with h1 | h1
      · unfold dictPut at h1
        split at h1
        · obtain ⟨z, hz, hzy⟩ := List.mem_map.1 h1
          split at hzy
          · exact Or.inr (hzy ▸ List.mem_cons_self)
          · exact Or.inl (hzy ▸ hz)
        · rcases List.mem_append.1 h1 with h2 | h2
          · exact Or.inl h2
          · exact Or.inr (List.mem_singleton.1 h2 ▸ List.mem_cons_self)
      · exact Or.inr (List.mem_cons_of_mem _ h1)

theorem mem_of_mem_dictOf {l : List (α × β)} {y : α × β} (h : y ∈ dictOf l) : y ∈ l :=
  (mem_foldl_dictPut l [] h).resolve_left (by simp)

variable [LawfulBEq α]

theorem dictPut_keys (acc : List (α × β)) (kv : α × β) :
    (dictPut acc kv).map (·.1) = if acc.any (·.1 == kv.1) then acc.map (·.1) else acc.map (·.1) ++ [kv.1] := by
  unfold dictPut
  split
  · rw [List.map_map]
    apply List.map_congr_left
    intro e _
    simp only [Function.comp_apply]
    split
    · rename_i he; exact (beq_iff_eq.1 he).symm
    · rfl
  · rw [List.map_append]; rfl

theorem find_dictPut (acc : List (α × β)) (kv : α × β) (u : α) :
    (dictPut acc kv).find? (·.1 == u) = if kv.1 == u then some kv else acc.find? (·.1 == u) := by
  unfold dictPut
  by_cases huk : (kv.1 == u) = true
  · have hk : kv.1 = u := beq_iff_eq.1 huk
    subst hk
    rw [if_pos huk]
    split
    · rename_i hany
      obtain ⟨x, hx⟩ := Option.isSome_iff_exists.1 (List.find?_isSome.2 (List.any_eq_true.1 hany))
      rw [List.find?_map, show ((fun (e : α × β) => e.1 == kv.1) ∘ fun e => if e.1 == kv.1 then kv else e) = (fun e => e.1 == kv.1) from
        funext fun e => by by_cases h : (e.1 == kv.1) = true <;> simp [h], hx, Option.map_some, if_pos (List.find?_some hx)]
    · rename_i hany
      rw [List.find?_append, List.find?_eq_none.2 (fun x hx hxk => hany (List.any_eq_true.2 ⟨x, hx, hxk⟩))]
      simp
  · have hne : (kv.1 == u) = false := Bool.eq_false_iff.2 huk
    rw [if_neg huk]
    split
    · rw [List.find?_map, show ((fun (e : α × β) => e.1 == u) ∘ fun e => if e.1 == kv.1 then kv else e) = (fun e => e.1 == u) from
        funext fun e => by
          by_cases h : (e.1 == kv.1) = true
          · simp [h, hne, show (e.1 == u) = false from by rw [beq_iff_eq.1 h]; exact hne]
          · simp [h]]
      cases hf : acc.find? (·.1 == u) with
      | none => rfl
      | some x =>
        have : ¬ (x.1 == kv.1) = true := fun h => huk (by rw [← beq_iff_eq.1 h]; exact List.find?_some (p := fun x : α × β => x.1 == u) hf)
        simp [this]
    · rw [List.find?_append]
      cases acc.find? (·.1 == u) <;> simp [hne]

theorem dictOf_keys (l : List (α × β)) (k : α) : k ∈ (dictOf l).map (·.1) ↔ k ∈ l.map (·.1) := by
  suffices hgen : ∀ (rest acc : List (α × β)),
      k ∈ (rest.foldl dictPut acc).map (·.1) ↔ (k ∈ acc.map (·.1) ∨ k ∈ rest.map (·.1)) by
    simpa [dictOf_eq_foldl] using hgen l []
  intro rest
  induction rest with
  | nil => intro acc; simp
  | cons kv rest ih =>
    intro acc
    rw [List.foldl_cons, ih, dictPut_keys, List.map_cons, List.mem_cons]
    split
    · rename_i hany
      obtain ⟨e, he, hek⟩ := List.any_eq_true.1 hany
      have hin : kv.1 ∈ acc.map (·.1) := List.mem_map.2 ⟨e, he, beq_iff_eq.1 hek⟩
      exact ⟨fun h => h.elim Or.inl (fun h => Or.inr (Or.inr h)),
        fun h => h.elim Or.inl (fun h => h.elim (fun h => Or.inl (h ▸ hin)) Or.inr)⟩
    · simp only [List.mem_append, List.mem_singleton, or_assoc]

theorem foldl_dictPut_fresh : ∀ (rest acc : List (α × β)), (∀ e ∈ rest, e.1 ∉ acc.map (·.1)) → (rest.map (·.1)).Nodup →
    rest.foldl dictPut acc = acc ++ rest
  | [], acc, _, _ => (List.append_nil acc).symm
  | kv :: t, acc, hfresh, hnd => by
      rw [List.map_cons, List.nodup_cons] at hnd
      have hnot : ¬ acc.any (·.1 == kv.1) = true := fun h =>
        have ⟨e, he, hek⟩ := List.any_eq_true.1 h
        hfresh kv List.mem_cons_self (List.mem_map.2 ⟨e, he, beq_iff_eq.1 hek⟩)
      have hfresh' : ∀ e ∈ t, e.1 ∉ (acc ++ [kv]).map (·.1) := fun e he => by
        rw [List.map_append, List.mem_append, not_or]
        exact ⟨hfresh e (List.mem_cons_of_mem _ he), fun h => hnd.1 (List.mem_map.2 ⟨e, he, List.mem_singleton.1 h⟩)⟩
      rw [List.foldl_cons, dictPut, if_neg hnot, foldl_dictPut_fresh t _ hfresh' hnd.2, List.append_assoc]; rfl

theorem dictOf_keys_nodup (l : List (α × β)) (h : (l.map (·.1)).Nodup) : dictOf l = l :=
  (foldl_dictPut_fresh l [] (fun _ _ => List.not_mem_nil) h).trans (List.nil_append l)

end Pdt.Cache

namespace Pdt

theorem renameName_map (T : List String) (f : String → String) (n : String) :
    renameName (T.map (fun m => (m, f m))) n = if n ∈ T then f n else n := by
  unfold renameName
  rw [List.find?_map]
  show (match (T.find? (· == n)).map (fun m => (m, f m)) with | some (_, nn) => nn | none => n) = _
  by_cases hn : n ∈ T
  · rw [find_beq_self hn, if_pos hn]; rfl
  · rw [List.find?_eq_none.2 (fun x hx (hxn : (x == n) = true) => hn (beq_iff_eq.1 hxn ▸ hx)), if_neg hn]; rfl

theorem renameName_single (a b n : String) : renameName [(a, b)] n = if n = a then b else n := by
  simpa using renameName_map [a] (fun _ => b) n

end Pdt
