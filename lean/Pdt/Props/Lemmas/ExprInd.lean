/-
  Induction over the nested type `Expr` with hypotheses by membership, and the list / option helpers of the model's
  recursive functions (`evalRowList`, `Expr.uidsList`, `isEwiseList`, `evalList` …) read as `map` / `flatMap` / `∀ ∈`:
  a property of expressions is one `induction e using Expr.ind` (`Expr.ind_uids` when it holds under a condition on the
  identities the expression mentions).  One proof is a `mutual` block all the same: `C01.aggNodes_inline*` (C01Gen.lean) is an
  equation between two functions that recurse alike, one `simp only` with the definitions of both per case.
-/
import Pdt.Model.RowEval
import Pdt.Props.Lemmas.Lists

namespace Pdt

/-- `Expr.rec` with the motives of the nested occurrences (argument lists, optional default, branch and order pairs)
    set to "every member satisfies `P`" -/
theorem Expr.ind {P : Expr → Prop}
    (col : ∀ u dt ft, P (.col u dt ft))
    (lit : ∀ v t, P (.lit v t))
    (cast : ∀ e t, P e → P (.cast e t))
    (case : ∀ bs d, (∀ b ∈ bs, P b.1 ∧ P b.2) → (∀ x, d = some x → P x) → P (.case bs d))
    (fn : ∀ op args part arr, (∀ a ∈ args, P a) → (∀ l, part = some l → ∀ a ∈ l, P a) → (∀ o ∈ arr, P o.1) →
      P (.fn op args part arr)) :
    ∀ e, P e :=
  @Expr.rec P (fun l => ∀ a ∈ l, P a) (fun p => ∀ l, p = some l → ∀ a ∈ l, P a) (fun l => ∀ o ∈ l, P o.1)
    (fun l => ∀ b ∈ l, P b.1 ∧ P b.2) (fun d => ∀ x, d = some x → P x) (fun o => P o.1) (fun b => P b.1 ∧ P b.2)
    col lit fn case cast
    (fun _ h => nomatch h) (fun _ _ hh ht => List.forall_mem_cons.2 ⟨hh, ht⟩)
    (fun _ h => nomatch h) (fun _ hv _ h => Option.some.inj h ▸ hv)
    (fun _ h => nomatch h) (fun _ _ hh ht => List.forall_mem_cons.2 ⟨hh, ht⟩)
    (fun _ h => nomatch h) (fun _ _ hh ht => List.forall_mem_cons.2 ⟨hh, ht⟩)
    (fun _ h => nomatch h) (fun _ hv _ h => Option.some.inj h ▸ hv)
    (fun _ _ h => h) (fun _ _ h1 h2 => ⟨h1, h2⟩)

theorem Expr.uidsList_eq_flatMap (l : List Expr) : Expr.uidsList l = l.flatMap Expr.uids :=
  eq_flatMap_of_rec rfl (fun _ _ => rfl) l

theorem Expr.uidsOrds_eq_flatMap (arr : List (Expr × Bool × Option Bool)) : Expr.uidsOrds arr = arr.flatMap (fun o => o.1.uids) :=
  eq_flatMap_of_rec rfl (fun _ _ => rfl) arr

theorem Expr.uidsBranches_eq_flatMap (bs : List (Expr × Expr)) :
    Expr.uidsBranches bs = bs.flatMap (fun b => b.1.uids ++ b.2.uids) :=
  eq_flatMap_of_rec rfl (fun _ _ => rfl) bs

theorem Expr.mem_uidsList {l : List Expr} {a : Expr} (ha : a ∈ l) {u : Uid} (hu : u ∈ a.uids) : u ∈ Expr.uidsList l :=
  Expr.uidsList_eq_flatMap l ▸ List.mem_flatMap.2 ⟨a, ha, hu⟩

theorem Expr.mem_uidsOrds {arr : List (Expr × Bool × Option Bool)} {o} (ho : o ∈ arr) {u : Uid} (hu : u ∈ o.1.uids) :
    u ∈ Expr.uidsOrds arr :=
  Expr.uidsOrds_eq_flatMap arr ▸ List.mem_flatMap.2 ⟨o, ho, hu⟩

theorem Expr.mem_uidsBranches_cond {bs : List (Expr × Expr)} {b} (hb : b ∈ bs) {u : Uid} (hu : u ∈ b.1.uids) :
    u ∈ Expr.uidsBranches bs :=
  Expr.uidsBranches_eq_flatMap bs ▸ List.mem_flatMap.2 ⟨b, hb, List.mem_append_left _ hu⟩

theorem Expr.mem_uidsBranches_val {bs : List (Expr × Expr)} {b} (hb : b ∈ bs) {u : Uid} (hu : u ∈ b.2.uids) :
    u ∈ Expr.uidsBranches bs :=
  Expr.uidsBranches_eq_flatMap bs ▸ List.mem_flatMap.2 ⟨b, hb, List.mem_append_right _ hu⟩

/-- `Expr.ind` for a statement under a condition on the identities the expression mentions: the condition passes to the
    sub-expressions, so the induction hypotheses come without it -/
theorem Expr.ind_uids {P : Uid → Prop} {Q : Expr → Prop}
    (col : ∀ u dt ft, P u → Q (.col u dt ft))
    (lit : ∀ v t, Q (.lit v t))
    (cast : ∀ e t, Q e → Q (.cast e t))
    (case : ∀ bs d, (∀ b ∈ bs, Q b.1 ∧ Q b.2) → (∀ x, d = some x → Q x) → Q (.case bs d))
    (fn : ∀ op args part arr, (∀ a ∈ args, Q a) → (∀ l, part = some l → ∀ a ∈ l, Q a) → (∀ o ∈ arr, Q o.1) →
      Q (.fn op args part arr)) :
    ∀ e, (∀ u ∈ e.uids, P u) → Q e := by
  intro e
  induction e using Expr.ind with
  | col u dt ft => exact fun h => col u dt ft (h u (List.mem_singleton.2 rfl))
  | lit v t => exact fun _ => lit v t
  | cast e t ih => exact fun h => cast e t (ih h)
  | case bs d ihB ihD =>
    intro h
    simp only [Expr.uids, Expr.uidsBranches_eq_flatMap, List.forall_mem_append, List.forall_mem_flatMap] at h
    exact case bs d (fun b hb => ⟨(ihB b hb).1 (h.1 b hb).1, (ihB b hb).2 (h.1 b hb).2⟩) (fun x hx => ihD x hx (by subst hx; exact h.2))
  | fn op args part arr ihA ihP ihO =>
    intro h
    simp only [Expr.uids, Expr.uidsList_eq_flatMap, Expr.uidsOrds_eq_flatMap, List.forall_mem_append, List.forall_mem_flatMap] at h
    refine fn op args part arr (fun a ha => ihA a ha (h.1.1 a ha)) (fun l hl a ha => ihP l hl a ha ?_) (fun o ho => ihO o ho (h.2 o ho))
    have h2 := h.1.2
    rw [hl, Expr.uidsOptList, Expr.uidsList_eq_flatMap, List.forall_mem_flatMap] at h2
    exact h2 a ha

namespace Cache

theorem aggWindowNodesList_eq_flatMap (l : List Expr) : aggWindowNodesList l = l.flatMap aggWindowNodes :=
  eq_flatMap_of_rec rfl (fun _ _ => rfl) l

theorem aggWindowNodesOrds_eq_flatMap (arr : List (Expr × Bool × Option Bool)) :
    aggWindowNodesOrds arr = arr.flatMap (fun o => aggWindowNodes o.1) :=
  eq_flatMap_of_rec rfl (fun _ _ => rfl) arr

theorem aggWindowNodesBranches_eq_flatMap (bs : List (Expr × Expr)) :
    aggWindowNodesBranches bs = bs.flatMap (fun b => aggWindowNodes b.1 ++ aggWindowNodes b.2) :=
  eq_flatMap_of_rec rfl (fun _ _ => rfl) bs

end Cache

namespace Spec

theorem evalRowList_eq_map (r : Row) (l : List Expr) : evalRowList r l = l.map (evalRow r) :=
  eq_map_of_rec rfl (fun _ _ => rfl) l

theorem evalRowConds_eq_map (r : Row) (bs : List (Expr × Expr)) : evalRowConds r bs = bs.map (fun b => evalRow r b.1) :=
  eq_map_of_rec rfl (fun _ _ => rfl) bs

theorem evalRowVals_eq_map (r : Row) (bs : List (Expr × Expr)) : evalRowVals r bs = bs.map (fun b => evalRow r b.2) :=
  eq_map_of_rec rfl (fun _ _ => rfl) bs

theorem isEwiseList_iff (l : List Expr) : isEwiseList l = true ↔ ∀ e ∈ l, isEwise e = true :=
  all_of_rec rfl (fun _ _ => rfl) l

theorem isEwiseBranches_iff (bs : List (Expr × Expr)) :
    isEwiseBranches bs = true ↔ ∀ b ∈ bs, isEwise b.1 = true ∧ isEwise b.2 = true := by
  simpa only [Bool.and_eq_true] using all_of_rec (p := fun b : Expr × Expr => isEwise b.1 && isEwise b.2) rfl (fun _ _ => rfl) bs

theorem evalList_eq_map (units : List Unit') (l : List Expr) : evalList units l = l.map (evalUnits units) :=
  eq_map_of_rec rfl (fun _ _ => rfl) l

theorem evalOrds_eq_map (units : List Unit') (arr : List (Expr × Bool × Option Bool)) :
    evalOrds units arr = arr.map (fun o => evalUnits units o.1) :=
  eq_map_of_rec rfl (fun _ _ => rfl) arr

theorem evalBranchConds_eq_map (units : List Unit') (bs : List (Expr × Expr)) :
    evalBranchConds units bs = bs.map (fun b => evalUnits units b.1) :=
  eq_map_of_rec rfl (fun _ _ => rfl) bs

theorem evalBranchVals_eq_map (units : List Unit') (bs : List (Expr × Expr)) :
    evalBranchVals units bs = bs.map (fun b => evalUnits units b.2) :=
  eq_map_of_rec rfl (fun _ _ => rfl) bs

end Spec

end Pdt
