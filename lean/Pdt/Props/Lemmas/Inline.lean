/-
  `Sql.inline` (the compiler inlines the definitions of computed columns into later expressions).  The substitution
  lemma `inline_eval`: the inlined expression on a FROM row gives what the expression itself gives on the row of the
  reference semantics that carries the computed columns.
-/
import Pdt.Model.Sql
import Pdt.Props.Lemmas.Rows

namespace Pdt.Sql
open Pdt Pdt.Spec

theorem inlineList_eq_map (d : Defs) (l : List Expr) : inlineList d l = l.map (inline d) :=
  eq_map_of_rec rfl (fun _ _ => rfl) l

theorem inlineOpt_eq_map (d : Defs) (part : Option (List Expr)) : inlineOpt d part = part.map (List.map (inline d)) := by
  cases part with
  | none => rfl
  | some l => exact congrArg some (inlineList_eq_map d l)

theorem inlineOrds_eq_map (d : Defs) (arr : List (Expr × Bool × Option Bool)) :
    inlineOrds d arr = arr.map (fun o => (inline d o.1, o.2)) :=
  eq_map_of_rec rfl (fun _ _ => rfl) arr

theorem inlineBranches_eq_map (d : Defs) (bs : List (Expr × Expr)) :
    inlineBranches d bs = bs.map (fun b => (inline d b.1, inline d b.2)) :=
  eq_map_of_rec rfl (fun _ _ => rfl) bs

theorem inline_col (d : Defs) (u : Uid) (dt : Dtype) (ft : Ftype) :
    inline d (.col u dt ft) = ((d.get u).map (·.2)).getD (.col u dt ft) := by
  rw [inline]
  cases d.get u <;> rfl

theorem ewise_no_agg : ∀ (e : Expr), isEwise e = true → Cache.aggWindowNodes e = [] := by
  intro e
  induction e using Expr.ind with
  | col _ _ _ => exact fun _ => rfl
  | lit _ _ => exact fun _ => rfl
  | cast e t ih => exact ih
  | fn op args part arr ihA _ _ =>
    intro h
    simp only [isEwise, Bool.and_eq_true, Option.isNone_iff_eq_none, List.isEmpty_iff, isEwiseList_iff] at h
    obtain ⟨⟨⟨h1, h2⟩, rfl⟩, rfl⟩ := h
    have : (opFtype op != Ftype.elementWise) = false := by simpa using h1
    rw [Cache.aggWindowNodes, this, Cache.aggWindowNodesList_eq_flatMap, List.flatMap_eq_nil_iff.2 (fun a ha => ihA a ha (h2 a ha))]
    rfl
  | case bs d ihB ihD =>
    intro h
    simp only [isEwise, Bool.and_eq_true, isEwiseBranches_iff] at h
    have hB : Cache.aggWindowNodesBranches bs = [] := by
      rw [Cache.aggWindowNodesBranches_eq_flatMap, List.flatMap_eq_nil_iff]
      exact fun b hb => by rw [(ihB b hb).1 (h.1 b hb).1, (ihB b hb).2 (h.1 b hb).2]; rfl
    cases d with
    | none => rw [Cache.aggWindowNodes, hB]; rfl
    | some x => rw [Cache.aggWindowNodes, hB, ihD x rfl h.2]; rfl

theorem ewise_no_agg_list : ∀ (l : List Expr), isEwiseList l = true → Cache.aggWindowNodesList l = [] := by
  intro l h
  rw [Cache.aggWindowNodesList_eq_flatMap, List.flatMap_eq_nil_iff]
  exact fun a ha => ewise_no_agg a ((isEwiseList_iff l).1 h a ha)

theorem ewise_no_agg_branches : ∀ (bs : List (Expr × Expr)), isEwiseBranches bs = true → Cache.aggWindowNodesBranches bs = [] := by
  intro bs h
  rw [Cache.aggWindowNodesBranches_eq_flatMap, List.flatMap_eq_nil_iff]
  exact fun b hb => by
    rw [ewise_no_agg b.1 ((isEwiseBranches_iff bs).1 h b hb).1, ewise_no_agg b.2 ((isEwiseBranches_iff bs).1 h b hb).2]; rfl

/-- all definitions are element-wise expressions (the invariant `C01.InvO` carries this as `hd`) -/
def DefsEwise (d : Defs) : Prop := ∀ u n x, d.get u = some (n, x) → isEwise x = true

theorem inline_ewise (d : Defs) (hd : DefsEwise d) : ∀ (e : Expr), isEwise e = true → isEwise (inline d e) = true := by
  intro e
  induction e using Expr.ind with
  | col u dt ft =>
    intro _
    rw [inline]
    cases hg : d.get u with
    | none => rfl
    | some p => exact hd u p.1 p.2 hg
  | lit _ _ => intro _; rfl
  | cast e t ih => exact ih
  | fn op args part arr ih _ _ =>
    intro h
    simp only [isEwise, Bool.and_eq_true, Option.isNone_iff_eq_none, List.isEmpty_iff, isEwiseList_iff] at h
    obtain ⟨⟨⟨h1, h2⟩, rfl⟩, rfl⟩ := h
    rw [inline, isEwise, h1, inlineList_eq_map, (isEwiseList_iff _).2 (List.forall_mem_map.2 (fun a ha => ih a ha (h2 a ha)))]
    rfl
  | case bs dflt ihB ihD =>
    intro h
    simp only [isEwise, Bool.and_eq_true, isEwiseBranches_iff] at h
    have hB : isEwiseBranches (inlineBranches d bs) = true := by
      rw [isEwiseBranches_iff, inlineBranches_eq_map]
      exact List.forall_mem_map.2 (fun b hb => ⟨(ihB b hb).1 (h.1 b hb).1, (ihB b hb).2 (h.1 b hb).2⟩)
    cases dflt with
    | none => rw [inline, isEwise, hB]; rfl
    | some x => rw [inline, isEwise, hB, isEwiseOpt, ihD x rfl h.2]; rfl

theorem inline_ewise_list (d : Defs) (hd : DefsEwise d) : ∀ (l : List Expr), isEwiseList l = true → isEwiseList (inlineList d l) = true := by
  intro l h
  rw [isEwiseList_iff] at h ⊢
  rw [inlineList_eq_map]
  exact List.forall_mem_map.2 (fun e he => inline_ewise d hd e (h e he))

theorem inline_ewise_branches (d : Defs) (hd : DefsEwise d) : ∀ (bs : List (Expr × Expr)), isEwiseBranches bs = true →
    isEwiseBranches (inlineBranches d bs) = true := by
  intro bs h
  rw [isEwiseBranches_iff] at h ⊢
  rw [inlineBranches_eq_map]
  exact List.forall_mem_map.2 (fun b hb => ⟨inline_ewise d hd b.1 (h b hb).1, inline_ewise d hd b.2 (h b hb).2⟩)

/-- `b` is a row of the FROM relation, `s` the corresponding row of the reference semantics: every
    defined column evaluates on `b` to the value `s` holds for it -/
def Agree (d : Defs) (b s : Row) : Prop := ∀ u n x, d.get u = some (n, x) → evalRow b x = s.get u

/-- every identity of `uids` is defined, so `inline` leaves no column of an expression over `uids` as it is (an undefined
    one stays a leaf: `KeyError` in the real code) -/
def Covers (d : Defs) (uids : List Uid) : Prop := ∀ u ∈ uids, (d.get u).isSome = true

theorem inline_eval (d : Defs) (b s : Row) (ha : Agree d b s) : ∀ (e : Expr), Covers d e.uids →
    evalRow b (inline d e) = evalRow s e := by
  apply Expr.ind_uids
  case col =>
    intro u dt ft hu
    rw [inline]
    cases hg : d.get u with
    | none => rw [hg] at hu; cases hu
    | some p => exact ha u p.1 p.2 hg
  case lit => exact fun _ _ => rfl
  case cast => exact fun e t ih => congrArg (Ops.castVal · t) ih
  case fn =>
    intro op args part arr ih _ _
    simp only [inline, evalRow, evalRowList_eq_map, inlineList_eq_map, List.map_map]
    exact congrArg _ (List.map_congr_left ih)
  case case =>
    intro bs dflt ihB ihD
    have hC : evalRowConds b (inlineBranches d bs) = evalRowConds s bs := by
      rw [evalRowConds_eq_map, evalRowConds_eq_map, inlineBranches_eq_map, List.map_map]
      exact List.map_congr_left (fun x hx => (ihB x hx).1)
    have hV : evalRowVals b (inlineBranches d bs) = evalRowVals s bs := by
      rw [evalRowVals_eq_map, evalRowVals_eq_map, inlineBranches_eq_map, List.map_map]
      exact List.map_congr_left (fun x hx => (ihB x hx).2)
    cases dflt with
    | none => rw [inline, evalRow, evalRow, hC, hV]; rfl
    | some x => rw [inline, evalRow, evalRow, hC, hV, evalRowOpt, evalRowOpt, ihD x rfl]

/-- the form of a select entry in `evalSelect` -/
theorem inline_eval_col (d : Defs) (b s : Row) (ha : Agree d b s) {u : Uid} (hu : (d.get u).isSome = true) (dt : Dtype) (ft : Ftype) :
    evalRow b (inline d (.col u dt ft)) = s.get u :=
  inline_eval d b s ha _ (fun _ hv => List.mem_singleton.1 hv ▸ hu)

theorem inline_eval_list (d : Defs) (b s : Row) (ha : Agree d b s) : ∀ (l : List Expr), Covers d (Expr.uidsList l) →
    evalRowList b (inlineList d l) = evalRowList s l := by
  intro l hc
  rw [evalRowList_eq_map, evalRowList_eq_map, inlineList_eq_map, List.map_map]
  exact List.map_congr_left (fun e he => inline_eval d b s ha e (fun u hu => hc u (Expr.mem_uidsList he hu)))

theorem inline_eval_conds (d : Defs) (b s : Row) (ha : Agree d b s) : ∀ (bs : List (Expr × Expr)), Covers d (Expr.uidsBranches bs) →
    evalRowConds b (inlineBranches d bs) = evalRowConds s bs := by
  intro bs hc
  rw [evalRowConds_eq_map, evalRowConds_eq_map, inlineBranches_eq_map, List.map_map]
  exact List.map_congr_left (fun x hx => inline_eval d b s ha x.1 (fun u hu => hc u (Expr.mem_uidsBranches_cond hx hu)))

theorem inline_eval_vals (d : Defs) (b s : Row) (ha : Agree d b s) : ∀ (bs : List (Expr × Expr)), Covers d (Expr.uidsBranches bs) →
    evalRowVals b (inlineBranches d bs) = evalRowVals s bs := by
  intro bs hc
  rw [evalRowVals_eq_map, evalRowVals_eq_map, inlineBranches_eq_map, List.map_map]
  exact List.map_congr_left (fun x hx => inline_eval d b s ha x.2 (fun u hu => hc u (Expr.mem_uidsBranches_val hx hu)))

theorem inline_congr_expr (d d2 : Defs) : ∀ (e : Expr), (∀ u ∈ e.uids, (d2.get u).map (·.2) = (d.get u).map (·.2)) →
    inline d2 e = inline d e := by
  apply Expr.ind_uids
  case col => exact fun u dt ft h => by rw [inline_col, inline_col, h]
  case lit => exact fun _ _ => rfl
  case cast => exact fun e t ih => congrArg (Expr.cast · t) ih
  case fn =>
    intro op args part arr ihA ihP ihO
    rw [inline, inline, inlineList_eq_map, inlineList_eq_map, inlineOpt_eq_map, inlineOpt_eq_map, inlineOrds_eq_map, inlineOrds_eq_map,
      List.map_congr_left ihA, List.map_congr_left (fun o ho => congrArg (·, o.2) (ihO o ho))]
    cases part with
    | none => rfl
    | some l => rw [Option.map_some, Option.map_some, List.map_congr_left (ihP l rfl)]
  case case =>
    intro bs dflt ihB ihD
    have hB : inlineBranches d2 bs = inlineBranches d bs := by
      rw [inlineBranches_eq_map, inlineBranches_eq_map]
      exact List.map_congr_left (fun b hb => Prod.ext (ihB b hb).1 (ihB b hb).2)
    cases dflt with
    | none => rw [inline, inline, hB]
    | some x => rw [inline, inline, hB, ihD x rfl]

theorem inlineList_congr_expr (d d2 : Defs) (l : List Expr) (h : ∀ u ∈ Expr.uidsList l, (d2.get u).map (·.2) = (d.get u).map (·.2)) :
    inlineList d2 l = inlineList d l := by
  rw [inlineList_eq_map, inlineList_eq_map]
  exact List.map_congr_left (fun e he => inline_congr_expr d d2 e (fun u hu => h u (Expr.mem_uidsList he hu)))

theorem inlineOpt_congr_expr (d d2 : Defs) : ∀ (l : Option (List Expr)),
    (∀ u ∈ Expr.uidsOptList l, (d2.get u).map (·.2) = (d.get u).map (·.2)) → inlineOpt d2 l = inlineOpt d l
  | none, _ => rfl
  | some l, h => congrArg some (inlineList_congr_expr d d2 l h)

theorem inlineOrds_congr_expr (d d2 : Defs) (l : List (Expr × Bool × Option Bool))
    (h : ∀ u ∈ Expr.uidsOrds l, (d2.get u).map (·.2) = (d.get u).map (·.2)) : inlineOrds d2 l = inlineOrds d l := by
  rw [inlineOrds_eq_map, inlineOrds_eq_map]
  exact List.map_congr_left (fun o ho => congrArg (·, o.2) (inline_congr_expr d d2 o.1 (fun u hu => h u (Expr.mem_uidsOrds ho hu))))

theorem inlineBranches_congr_expr (d d2 : Defs) (bs : List (Expr × Expr))
    (h : ∀ u ∈ Expr.uidsBranches bs, (d2.get u).map (·.2) = (d.get u).map (·.2)) : inlineBranches d2 bs = inlineBranches d bs := by
  rw [inlineBranches_eq_map, inlineBranches_eq_map]
  exact List.map_congr_left (fun b hb => Prod.ext (inline_congr_expr d d2 b.1 (fun u hu => h u (Expr.mem_uidsBranches_cond hb hu)))
    (inline_congr_expr d d2 b.2 (fun u hu => h u (Expr.mem_uidsBranches_val hb hu))))

end Pdt.Sql
