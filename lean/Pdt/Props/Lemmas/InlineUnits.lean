/-
  Substitution over *units*: an arbitrary expression (element-wise operators, plain aggregates, window functions with
  partition_by / arrange, case, cast, nested in any way) with element-wise definitions inlined, evaluated over units of
  FROM rows, gives what the expression itself gives over the corresponding units of reference rows.  (The row-level
  `Sql.inline_eval` is a separate induction: it is about `evalRow` and needs no `DefsEwise`.)
-/
import Pdt.Props.Lemmas.Inline
import Pdt.Props.Lemmas.Pointwise

namespace Pdt.C01
open Pdt Pdt.Spec Pdt.Sql

mutual
/-- every column reference sits below a plain aggregate (what an *ungrouped* summarize may contain) -/
def bareFree : Expr → Bool
  | .col .. => false
  | .lit .. => true
  | .cast e _ => bareFree e
  | .case bs d => bareFreeBranches bs && bareFreeO d
  | .fn op args part arr =>
      (opFtype op != .elementWise && isPlainAgg op part) || (bareFreeList args && bareFreeOpt part && bareFreeOrds arr)
def bareFreeList : List Expr → Bool
  | [] => true
  | e :: es => bareFree e && bareFreeList es
def bareFreeOpt : Option (List Expr) → Bool
  | none => true
  | some l => bareFreeList l
def bareFreeOrds : List (Expr × Bool × Option Bool) → Bool
  | [] => true
  | (e, _) :: es => bareFree e && bareFreeOrds es
def bareFreeBranches : List (Expr × Expr) → Bool
  | [] => true
  | (c, v) :: bs => bareFree c && bareFree v && bareFreeBranches bs
def bareFreeO : Option Expr → Bool
  | none => true
  | some e => bareFree e
end

/-- rows agree; units may be empty -/
def Good0 (d : Defs) (f : Row → Row) (us : List Unit') : Prop := ∀ un ∈ us, ∀ b ∈ un, Agree d b (f b)

theorem bareFreeList_iff (l : List Expr) : bareFreeList l = true ↔ ∀ a ∈ l, bareFree a = true :=
  all_of_rec rfl (fun _ _ => rfl) l

theorem bareFreeOrds_iff (l : List (Expr × Bool × Option Bool)) : bareFreeOrds l = true ↔ ∀ o ∈ l, bareFree o.1 = true :=
  all_of_rec (p := fun o : Expr × Bool × Option Bool => bareFree o.1) rfl (fun _ _ => rfl) l

theorem bareFreeBranches_iff (bs : List (Expr × Expr)) :
    bareFreeBranches bs = true ↔ ∀ b ∈ bs, bareFree b.1 = true ∧ bareFree b.2 = true := by
  simpa only [Bool.and_eq_true] using all_of_rec (p := fun b : Expr × Expr => bareFree b.1 && bareFree b.2) rfl (fun _ _ => rfl) bs

end Pdt.C01

namespace Pdt.Sql
open Pdt Pdt.Spec Pdt.C01

/-- `Good0` and every unit non-empty: what `inline_units` needs where a bare column reference reads the first row of its unit -/
def Good (d : Defs) (f : Row → Row) (us : List Unit') : Prop := ∀ un ∈ us, un ≠ [] ∧ ∀ b ∈ un, Agree d b (f b)

theorem good_singletons (d : Defs) (f : Row → Row) (un : Unit') (h : ∀ b ∈ un, Agree d b (f b)) :
    Good d f (un.map (fun r => [r])) := by
  intro x hx
  obtain ⟨b, hb, rfl⟩ := List.mem_map.1 hx
  refine ⟨by simp, fun c hc => ?_⟩
  simp only [List.mem_singleton] at hc
  rw [hc]
  exact h b hb

theorem firstRow_map_ne (f : Row → Row) (un : Unit') (h : un ≠ []) : firstRow (un.map f) = f (firstRow un) := by
  cases un with
  | nil => exact absurd rfl h
  | cons a as => simp [firstRow]

theorem inlineOrds_spec (d : Defs) : ∀ (arr : List (Expr × Bool × Option Bool)),
    (inlineOrds d arr).map (fun o => (o.2.1, o.2.2)) = arr.map (fun o => (o.2.1, o.2.2)) := by
  intro arr
  rw [inlineOrds_eq_map, List.map_map]
  rfl

theorem inlineOpt_isNone (d : Defs) (part : Option (List Expr)) : (inlineOpt d part).isNone = part.isNone := by
  cases part <;> rfl

theorem evalList_inline {d : Defs} {us us' : List Unit'} {l : List Expr} (h : ∀ a ∈ l, evalUnits us (inline d a) = evalUnits us' a) :
    evalList us (inlineList d l) = evalList us' l := by
  rw [evalList_eq_map, evalList_eq_map, inlineList_eq_map, List.map_map]
  exact List.map_congr_left h

theorem evalOrds_inline {d : Defs} {us us' : List Unit'} {l : List (Expr × Bool × Option Bool)}
    (h : ∀ o ∈ l, evalUnits us (inline d o.1) = evalUnits us' o.1) : evalOrds us (inlineOrds d l) = evalOrds us' l := by
  rw [evalOrds_eq_map, evalOrds_eq_map, inlineOrds_eq_map, List.map_map]
  exact List.map_congr_left h

theorem evalBranchConds_inline {d : Defs} {us us' : List Unit'} {bs : List (Expr × Expr)}
    (h : ∀ b ∈ bs, evalUnits us (inline d b.1) = evalUnits us' b.1) :
    evalBranchConds us (inlineBranches d bs) = evalBranchConds us' bs := by
  rw [evalBranchConds_eq_map, evalBranchConds_eq_map, inlineBranches_eq_map, List.map_map]
  exact List.map_congr_left h

theorem evalBranchVals_inline {d : Defs} {us us' : List Unit'} {bs : List (Expr × Expr)}
    (h : ∀ b ∈ bs, evalUnits us (inline d b.2) = evalUnits us' b.2) :
    evalBranchVals us (inlineBranches d bs) = evalBranchVals us' bs := by
  rw [evalBranchVals_eq_map, evalBranchVals_eq_map, inlineBranches_eq_map, List.map_map]
  exact List.map_congr_left h

/-- A bare column reference reads the first row of its unit, so it needs that unit to be non-empty; the arguments of a
    plain aggregate are evaluated on single rows, which are. Hence either every unit is non-empty, or every column
    reference sits below a plain aggregate. -/
theorem inline_units_gen (d : Defs) (hd : DefsEwise d) (f : Row → Row) : ∀ (e : Expr), Covers d e.uids → ∀ (us : List Unit'),
    Good0 d f us → (bareFree e = true ∨ ∀ un ∈ us, un ≠ []) →
    evalUnits us (inline d e) = evalUnits (us.map (fun un => un.map f)) e := by
  apply Expr.ind_uids
  case col =>
    intro u dt ft hcu us hg hs
    have hne := hs.resolve_left (by simp [bareFree])
    rw [inline]
    cases hgu : d.get u with
    | none => rw [hgu] at hcu; cases hcu
    | some p =>
      show evalUnits us p.2 = _
      rw [evalUnits_ewise _ _ (hd u p.1 p.2 hgu), evalUnits, List.map_map]
      refine List.map_congr_left (fun un hun => ?_)
      rw [Function.comp_apply, firstRow_map_ne f un (hne un hun)]
      cases un with
      | nil => exact absurd rfl (hne _ hun)
      | cons a as => exact hg _ hun a List.mem_cons_self u p.1 p.2 hgu
  case lit => intro v t us _ _; rw [inline, evalUnits, evalUnits, List.map_map]; rfl
  case cast => intro e t ih us hg hs; rw [inline, evalUnits, evalUnits, ih us hg hs]
  case fn =>
    intro op args part arr ihA ihP ihO us hg hs
    -- unless the node is a plain aggregate, its sub-expressions are evaluated over `us` itself and inherit the side condition
    have hsub : (opFtype op == .elementWise) = true ∨ isPlainAgg op part = false →
        (bareFreeList args = true ∧ bareFreeOpt part = true ∧ bareFreeOrds arr = true) ∨ ∀ un ∈ us, un ≠ [] := by
      intro hb
      refine hs.imp_left (fun h => ?_)
      simp only [bareFree, Bool.or_eq_true, Bool.and_eq_true, bne_iff_ne, ne_eq] at h
      rcases h with ⟨h1, h2⟩ | ⟨⟨h1, h2⟩, h3⟩
      · rcases hb with hb | hb
        · exact absurd (beq_iff_eq.1 hb) h1
        · rw [h2] at hb; cases hb
      · exact ⟨h1, h2, h3⟩
    have hA : (opFtype op == .elementWise) = true ∨ isPlainAgg op part = false →
        evalList us (inlineList d args) = evalList (us.map (fun un => un.map f)) args ∧
        evalOptList us (inlineOpt d part) = evalOptList (us.map (fun un => un.map f)) part ∧
        evalOrds us (inlineOrds d arr) = evalOrds (us.map (fun un => un.map f)) arr := by
      intro hb
      have hs' := hsub hb
      refine ⟨evalList_inline (fun a ha => ihA a ha us hg (hs'.imp_left (fun h => (bareFreeList_iff args).1 h.1 a ha))), ?_,
        evalOrds_inline (fun o ho => ihO o ho us hg (hs'.imp_left (fun h => (bareFreeOrds_iff arr).1 h.2.2 o ho)))⟩
      cases part with
      | none => rfl
      | some l => exact evalList_inline (fun a ha => ihP l rfl a ha us hg (hs'.imp_left (fun h => (bareFreeList_iff l).1 h.2.1 a ha)))
    -- below a plain aggregate the units are single rows
    have hA1 : ∀ un ∈ us, evalList (un.map (fun r => [r])) (inlineList d args) =
        evalList ((un.map (fun r => [r])).map (fun un => un.map f)) args :=
      fun un hun => evalList_inline (fun a ha => ihA a ha _ (fun x hx => (good_singletons d f un (hg un hun) x hx).2)
        (Or.inr (fun x hx => (good_singletons d f un (hg un hun) x hx).1)))
    simp only [inline, evalUnits, List.length_map]
    rw [inlineOrds_spec, show isPlainAgg op (inlineOpt d part) = isPlainAgg op part by rw [isPlainAgg, isPlainAgg, inlineOpt_isNone]]
    split
    · rename_i h1; rw [(hA (Or.inl h1)).1]
    · split
      · rw [List.map_map]
        refine List.map_congr_left (fun un hun => ?_)
        simp only [Function.comp_apply, List.length_map]
        rw [hA1 un hun]
        simp only [List.map_map]
        rfl
      · rename_i h2
        obtain ⟨e1, e2, e3⟩ := hA (Or.inr (Bool.not_eq_true _ ▸ h2))
        rw [e1, e2, e3]
  case case =>
    intro bs dflt ihB ihD us hg hs
    have hsB : ∀ b ∈ bs, (bareFree b.1 = true ∧ bareFree b.2 = true) ∨ ∀ un ∈ us, un ≠ [] := fun b hb =>
      hs.imp_left (fun h => by rw [bareFree, Bool.and_eq_true, bareFreeBranches_iff] at h; exact h.1 b hb)
    have hC := evalBranchConds_inline (fun b hb => (ihB b hb).1 us hg ((hsB b hb).imp_left And.left))
    have hV := evalBranchVals_inline (fun b hb => (ihB b hb).2 us hg ((hsB b hb).imp_left And.right))
    -- `evalUnits us (.case bs dflt)` unfolds only once `dflt` is a constructor
    cases dflt with
    | none =>
      simp only [inline, evalUnits, List.length_map, hC, hV, List.map_map]
      rfl
    | some x =>
      simp only [inline, evalUnits, List.length_map, hC, hV,
        ihD x rfl us hg (hs.imp_left (fun h => by rw [bareFree, Bool.and_eq_true] at h; exact h.2))]

theorem inline_units (d : Defs) (hd : DefsEwise d) (f : Row → Row) : ∀ (e : Expr) (us : List Unit'), Good d f us → Covers d e.uids →
    evalUnits us (inline d e) = evalUnits (us.map (fun un => un.map f)) e :=
  fun e us hg hc => inline_units_gen d hd f e hc us (fun un hun => (hg un hun).2) (Or.inr (fun un hun => (hg un hun).1))

theorem inline_units_list (d : Defs) (hd : DefsEwise d) (f : Row → Row) : ∀ (l : List Expr) (us : List Unit'), Good d f us →
    Covers d (Expr.uidsList l) → evalList us (inlineList d l) = evalList (us.map (fun un => un.map f)) l :=
  fun _ us hg hc => evalList_inline (fun a ha => inline_units d hd f a us hg (fun u hu => hc u (Expr.mem_uidsList ha hu)))

theorem inline_units_opt (d : Defs) (hd : DefsEwise d) (f : Row → Row) : ∀ (l : Option (List Expr)) (us : List Unit'), Good d f us →
    Covers d (Expr.uidsOptList l) → evalOptList us (inlineOpt d l) = evalOptList (us.map (fun un => un.map f)) l
  | none, _, _, _ => rfl
  | some l, us, hg, hc => inline_units_list d hd f l us hg hc

theorem inline_units_ords (d : Defs) (hd : DefsEwise d) (f : Row → Row) : ∀ (l : List (Expr × Bool × Option Bool)) (us : List Unit'), Good d f us →
    Covers d (Expr.uidsOrds l) → evalOrds us (inlineOrds d l) = evalOrds (us.map (fun un => un.map f)) l :=
  fun _ us hg hc => evalOrds_inline (fun o ho => inline_units d hd f o.1 us hg (fun u hu => hc u (Expr.mem_uidsOrds ho hu)))

theorem inline_units_conds (d : Defs) (hd : DefsEwise d) (f : Row → Row) : ∀ (bs : List (Expr × Expr)) (us : List Unit'), Good d f us →
    Covers d (Expr.uidsBranches bs) → evalBranchConds us (inlineBranches d bs) = evalBranchConds (us.map (fun un => un.map f)) bs :=
  fun _ us hg hc => evalBranchConds_inline (fun b hb => inline_units d hd f b.1 us hg (fun u hu => hc u (Expr.mem_uidsBranches_cond hb hu)))

theorem inline_units_vals (d : Defs) (hd : DefsEwise d) (f : Row → Row) : ∀ (bs : List (Expr × Expr)) (us : List Unit'), Good d f us →
    Covers d (Expr.uidsBranches bs) → evalBranchVals us (inlineBranches d bs) = evalBranchVals (us.map (fun un => un.map f)) bs :=
  fun _ us hg hc => evalBranchVals_inline (fun b hb => inline_units d hd f b.2 us hg (fun u hu => hc u (Expr.mem_uidsBranches_val hb hu)))

end Pdt.Sql
