/-
  Facts about plain lists that core does not have: lists built position by position (the model reads lists by
  `List.range l.length` and `getD`), lists whose elements carry a duplicate-free key, and list functions given by a `nil` and
  a `cons` equation (`eq_map_of_rec` …).
-/

namespace Pdt

theorem map_range_length {α β} (xs : List α) (g : Nat → β) (f : α → β)
    (h : ∀ (i : Nat) (hi : i < xs.length), g i = f xs[i]) : (List.range xs.length).map g = xs.map f := by
  apply List.ext_getElem
  · simp
  · intro i h1 _
    simp only [List.length_map, List.length_range] at h1
    simp [h i h1]

theorem range_map_getD {α β} (xs : List α) (d : α) (g : α → β) :
    (List.range xs.length).map (fun i => g (xs.getD i d)) = xs.map g :=
  map_range_length xs _ g (fun i hi => by simp [hi])

theorem range_getD {α} (xs : List α) (d : α) : (List.range xs.length).map (fun i => xs.getD i d) = xs :=
  (range_map_getD xs d id).trans (List.map_id xs)

theorem zip_range_filter_getD {α κ} (l : List α) (d : α) (f : α → κ) (p : κ → Bool) :
    (((List.range l.length).zip (l.map f)).filter (fun ik => p ik.2)).map (fun ik => l.getD ik.1 d) =
      l.filter (fun x => p (f x)) := by
  have hz : (List.range l.length).zip (l.map f) = (List.range l.length).map (fun i => (i, f (l.getD i d))) := by
    apply List.ext_getElem
    · simp
    · intro i h1 h2
      simp only [List.length_zip, List.length_range, List.length_map, Nat.min_self] at h1
      simp [h1]
  conv => rhs; rw [← range_getD l d]
  rw [hz, List.filter_map, List.filter_map, List.map_map]
  rfl

/-- the form `simp` leaves of the HAVING filter of `Sql.evalSelect` when `having = []` (in `C01.evalSelect_rowwise`,
    `C01.evalSelect_grouped`) -/
theorem zip_range_filter_true {α} (l : List α) :
    ((l.zip (List.range l.length)).filter (fun _ => true)).map (·.1) = l := by
  rw [List.filter_eq_self.2 (fun _ _ => rfl)]
  exact List.map_fst_zip (by simp)

theorem zip_filter_map {α} (xs : List α) (f : α → Bool) :
    ((xs.zip (xs.map f)).filter (·.2)).map (·.1) = xs.filter f := by
  induction xs with
  | nil => simp
  | cons x xs ih =>
    simp only [List.map_cons, List.zip_cons_cons, List.filter_cons]
    cases f x <;> simp [ih]

theorem filterMap_eq_map_of_mem {α β} (f : α → Option β) (g : α → β) (l : List α) (h : ∀ a ∈ l, f a = some (g a)) :
    l.filterMap f = l.map g := by
  induction l with
  | nil => rfl
  | cons a as ih =>
    rw [List.filterMap_cons_some (h a List.mem_cons_self), ih (fun b hb => h b (List.mem_cons_of_mem a hb)), List.map_cons]

theorem inj_of_nodup_map {α β} (f : α → β) {l : List α} (h : (l.map f).Nodup) {a b : α} (ha : a ∈ l) (hb : b ∈ l)
    (hab : f a = f b) : a = b := by
  induction l with
  | nil => cases ha
  | cons x xs ih =>
    rw [List.map_cons, List.nodup_cons] at h
    rcases List.mem_cons.1 ha with ha | ha <;> rcases List.mem_cons.1 hb with hb | hb
    · rw [ha, hb]
    · exact absurd (List.mem_map.2 ⟨b, hb, by rw [← hab, ha]⟩) h.1
    · exact absurd (List.mem_map.2 ⟨a, ha, by rw [hab, hb]⟩) h.1
    · exact ih h.2 ha hb

theorem find_key_isSome_iff {α β} [BEq α] [LawfulBEq α] (l : List (α × β)) (k : α) :
    (l.find? (·.1 == k)).isSome = true ↔ k ∈ l.map (·.1) := by
  rw [List.find?_isSome, List.mem_map]
  exact exists_congr (fun e => and_congr_right (fun _ => beq_iff_eq))

theorem find_beq_self {α} [BEq α] [LawfulBEq α] {l : List α} {a : α} (h : a ∈ l) : l.find? (· == a) = some a := by
  obtain ⟨x, hx⟩ := Option.isSome_iff_exists.1 (List.find?_isSome (p := fun x => x == a).2 ⟨a, h, beq_self_eq_true a⟩)
  rw [hx, show x = a from beq_iff_eq.1 (List.find?_some (p := fun x => x == a) hx)]

theorem find_of_mem_nodup {α κ} [BEq κ] [LawfulBEq κ] (k : α → κ) {L : List α} (hnd : (L.map k).Nodup) {t : α} (ht : t ∈ L) :
    L.find? (fun x => k x == k t) = some t := by
  obtain ⟨x, hx⟩ := Option.isSome_iff_exists.1 (List.find?_isSome (p := fun x => k x == k t).2 ⟨t, ht, beq_self_eq_true _⟩)
  rw [hx, inj_of_nodup_map k hnd (List.mem_of_find?_eq_some hx) ht (by simpa using List.find?_some hx)]

theorem nodup_eraseDups {α} [BEq α] [LawfulBEq α] : ∀ (l : List α), l.eraseDups.Nodup
  | [] => by simp
  | a :: as => by
      rw [List.eraseDups_cons, List.nodup_cons]
      refine ⟨?_, nodup_eraseDups _⟩
      rw [List.mem_eraseDups, List.mem_filter]
      simp
termination_by l => l.length
decreasing_by
  simp only [List.length_cons]
  exact Nat.lt_succ_of_le (List.length_filter_le _ _)

theorem flatMap_filter_perm {α κ} [BEq κ] [LawfulBEq κ] (f : α → κ) {K : List κ} (hK : K.Nodup) :
    ∀ (l : List α), (∀ x ∈ l, f x ∈ K) → (K.flatMap (fun k => l.filter (fun x => f x == k))).Perm l
  | [], _ => by simp
  | x :: xs, h => by
      have ih := flatMap_filter_perm f hK xs (fun y hy => h y (List.mem_cons_of_mem _ hy))
      -- `x` joins the class of its key and no other
      obtain ⟨s, t, rfl⟩ := List.append_of_mem (h x List.mem_cons_self)
      rw [List.nodup_append] at hK
      have hs : ∀ k ∈ s, (x :: xs).filter (fun y => f y == k) = xs.filter (fun y => f y == k) := fun k hk =>
        List.filter_cons_of_neg (fun e => hK.2.2 k hk (f x) List.mem_cons_self (beq_iff_eq.1 e).symm)
      have ht : ∀ k ∈ t, (x :: xs).filter (fun y => f y == k) = xs.filter (fun y => f y == k) := fun k hk =>
        List.filter_cons_of_neg (fun e => (List.nodup_cons.1 hK.2.1).1 (beq_iff_eq.1 e ▸ hk))
      simp only [List.flatMap_def, List.map_append, List.map_cons, List.flatten_append, List.flatten_cons] at ih ⊢
      rw [List.map_congr_left hs, List.map_congr_left ht,
        List.filter_cons_of_pos (p := fun y => f y == f x) (beq_self_eq_true _)]
      exact List.perm_middle.trans (ih.cons x)

/-- the parameter lookup of `C13.constParamsRejectAt` has this form -/
theorem getD_of_lt_else {α} (ps : List α) (d lp : α) (i : Nat) :
    (if i < ps.length then ps.getD i d else lp) = ps.getD i lp := by
  simp only [List.getD_eq_getElem?_getD]
  split
  · rename_i h; rw [List.getElem?_eq_getElem h]; rfl
  · rename_i h; rw [List.getElem?_eq_none (Nat.le_of_not_lt h)]; rfl

/-- a relation given as a list of pairs, read by rows (`C17.castTargets`) -/
theorem contains_pair {α β : Type} [BEq α] [BEq β] [LawfulBEq α] [LawfulBEq β]
    (l : List (α × β)) (a : α) (b : β) :
    l.contains (a, b) = ((l.filter (·.1 == a)).map (·.2)).contains b := by
  rw [Bool.eq_iff_iff]
  simp only [List.contains_iff_mem, List.mem_map, List.mem_filter, beq_iff_eq]
  constructor
  · exact fun h => ⟨(a, b), ⟨h, rfl⟩, rfl⟩
  · rintro ⟨⟨x, y⟩, ⟨h, rfl⟩, rfl⟩
    exact h

/-- a function on lists given by a `nil` and a `cons` equation of this shape is `map` (below: `flatMap`, `all`): what
    each list helper of the model's mutual recursions over `Expr` is, by two `rfl`s -/
theorem eq_map_of_rec {α β} {g : List α → List β} {f : α → β} (h0 : g [] = []) (hc : ∀ a as, g (a :: as) = f a :: g as) :
    ∀ l, g l = l.map f
  | [] => h0
  | a :: as => (hc a as).trans (congrArg (f a :: ·) (eq_map_of_rec h0 hc as))

theorem eq_flatMap_of_rec {α β} {g : List α → List β} {f : α → List β} (h0 : g [] = []) (hc : ∀ a as, g (a :: as) = f a ++ g as) :
    ∀ l, g l = l.flatMap f
  | [] => h0
  | a :: as => (hc a as).trans ((congrArg (f a ++ ·) (eq_flatMap_of_rec h0 hc as)).trans List.flatMap_cons.symm)

theorem all_of_rec {α} {g : List α → Bool} {p : α → Bool} (h0 : g [] = true) (hc : ∀ a as, g (a :: as) = (p a && g as)) (l : List α) :
    g l = true ↔ ∀ a ∈ l, p a = true := by
  induction l with
  | nil => exact ⟨fun _ _ h => (nomatch h), fun _ => h0⟩
  | cons a as ih => rw [hc, Bool.and_eq_true, ih, List.forall_mem_cons]

end Pdt
