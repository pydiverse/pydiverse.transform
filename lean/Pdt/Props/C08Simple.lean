/-
  C08, the "simple grammar" clause: pipelines consisting only of element-wise `mutate` / `filter`,
  `select`, `rename`, `arrange`, one grouped `summarize` and a final `slice_head` never need a subquery.
  Stated verb by verb over the model of `Cache.requires_subquery`; of the state these decisions read,
  `limit` and `groupBy` are shown to stay unset under the other verbs.  No theorem here speaks of a
  whole pipeline.
-/
import Pdt.Props.C08
import Pdt.Props.Lemmas.Inline

namespace Pdt.C08
open Pdt Pdt.Cache Pdt.Spec

theorem shape_verbs_never (c : Cache) (i : NodeId) (ch : Ast) :
    (∀ cols, c.requiresSubquery (.select i ch cols) = none) ∧ (∀ m, c.requiresSubquery (.rename i ch m) = none) ∧
    (∀ n off, c.requiresSubquery (.sliceHead i ch n off) = none) ∧ c.requiresSubquery (.ungroup i ch) = none ∧
    (∀ m nm, c.requiresSubquery (.alias i ch m nm) = none) := by
  refine ⟨?_, ?_, ?_, ?_, ?_⟩ <;> intros <;> simp [requiresSubquery, Ast.isVerbKind] <;> decide

theorem ewise_mutate_never (c : Cache) (i : NodeId) (ch : Ast) (names : List String) (vals : List Expr) (uuids : List Uid)
    (metas : List (Dtype × Ftype)) (h : isEwiseList vals = true) :
    c.requiresSubquery (.mutate i ch names vals uuids metas) = none := by
  have hroots : (Ast.colRoots (.mutate i ch names vals uuids metas)).any
      (fun root => (aggWindowNodes root).any (fun sub => (colFtypes sub).any isAggOrWindow)) = false := by
    simp only [Ast.colRoots]
    rw [List.any_eq_false]
    intro root hr
    rw [Sql.ewise_no_agg root ((isEwiseList_iff _).1 h root hr)]
    simp
  unfold requiresSubquery
  simp only [hroots]
  simp [Ast.isVerbKind]

theorem arrange_groupby_ok (c : Cache) (i : NodeId) (ch : Ast) (hl : c.limit = none) :
    (∀ ords, c.requiresSubquery (.arrange i ch ords) = none) ∧ (∀ cols add, c.requiresSubquery (.groupBy i ch cols add) = none) := by
  refine ⟨?_, ?_⟩ <;> intros <;> simp [requiresSubquery, Ast.isVerbKind, hl] <;> decide

/-- the predicates may read aggregated columns (HAVING instead of WHERE), only not window columns -/
theorem filter_ok (c : Cache) (i : NodeId) (ch : Ast) (preds : List Expr) (hl : c.limit = none)
    (hw : ∀ p ∈ preds, ∀ ft ∈ colFtypes p, ft ≠ .window) :
    c.requiresSubquery (.filter i ch preds) = none := by
  have hno : ((Ast.colRoots (.filter i ch preds)).flatMap colFtypes).contains Ftype.window = false := by
    simp only [Ast.colRoots]
    rw [Bool.eq_false_iff]
    intro hc
    rw [List.contains_iff_mem, List.mem_flatMap] at hc
    obtain ⟨p, hp, hft⟩ := hc
    exact hw p hp _ hft rfl
  unfold requiresSubquery
  simp only [hl, hno]
  simp [Ast.isVerbKind]

/-- `hg` holds as long as no `summarize` came before (`groupBy_stays_empty`) -/
theorem summarize_ok (c : Cache) (i : NodeId) (ch : Ast) (names : List String) (vals : List Expr) (uuids : List Uid)
    (metas : List (Dtype × Ftype)) (hl : c.limit = none) (hg : c.groupBy = [])
    (hleaves : ∀ v ∈ vals, ∀ ft ∈ colFtypes v, ft = .elementWise)
    (hpart : ∀ u ∈ c.partitionBy, (c.col? u).map (·.ftype) ≠ some .window) :
    c.requiresSubquery (.summarize i ch names vals uuids metas) = none := by
  have hroot : ((Ast.colRoots (.summarize i ch names vals uuids metas)).flatMap colFtypes).any isAggOrWindow = false := by
    simp only [Ast.colRoots]
    rw [List.any_eq_false]
    intro ft hft
    obtain ⟨v, hv, hftv⟩ := List.mem_flatMap.1 hft
    rw [hleaves v hv ft hftv]
    decide
  have hp : c.partitionBy.any (fun u => (c.col? u).map (·.ftype) == some Ftype.window) = false := by
    rw [List.any_eq_false]
    intro u hu
    simpa using hpart u hu
  unfold requiresSubquery
  simp only [hl, hg, hroot, hp]
  simp [Ast.isVerbKind]

/-- only `slice_head` sets a limit (unset is `none`): hence the *final* `slice_head` of the grammar -/
theorem limit_stays_zero (c : Cache) (node : Ast) (hl : c.limit = none) (hk : ∀ i ch n off, node ≠ .sliceHead i ch n off) :
    (c.update node).limit = none := by
  cases node with
  | sliceHead i ch n off => exact absurd rfl (hk i ch n off)
  | alias i ch m nm => cases m <;> exact hl
  | subqueryMarker => rfl
  | _ => exact hl

/-- only `summarize` fills `groupBy` (the verb `group_by` sets `partitionBy`) -/
theorem groupBy_stays_empty (c : Cache) (node : Ast) (hg : c.groupBy = [])
    (hk : ∀ i ch a b d m, node ≠ .summarize i ch a b d m) : (c.update node).groupBy = [] := by
  cases node with
  | summarize i ch a b d m => exact absurd rfl (hk i ch a b d m)
  | alias i ch m nm => cases m <;> exact hg
  | subqueryMarker => rfl
  | _ => exact hg

end Pdt.C08
