/-
  C08 — SQL: a verb needing a subquery raises SubqueryError or is compiled correctly.

  This file holds the *decision* part over the front-end model: the catalogue
  `Cache.requiresSubquery` and the alias search `checkSubquery`.  (That accepted pipelines
  compile to a query with the Spec's meaning is C01's refinement theorem.)
-/
import Pdt.Model.Verbs
import Pdt.Props.Lemmas.ExprInd

namespace Pdt.Cache

/-! the list helpers of the two collectors of `requiresSubquery` as `flatMap`, to go with `Expr.ind` -/

theorem colFtypesList_eq_flatMap (l : List Expr) : colFtypesList l = l.flatMap colFtypes :=
  eq_flatMap_of_rec rfl (fun _ _ => rfl) l

theorem colFtypesOrds_eq_flatMap (arr : List (Expr × Bool × Option Bool)) :
    colFtypesOrds arr = arr.flatMap (fun o => colFtypes o.1) :=
  eq_flatMap_of_rec rfl (fun _ _ => rfl) arr

theorem colFtypesBranches_eq_flatMap (bs : List (Expr × Expr)) :
    colFtypesBranches bs = bs.flatMap (fun b => colFtypes b.1 ++ colFtypes b.2) :=
  eq_flatMap_of_rec rfl (fun _ _ => rfl) bs

end Pdt.Cache

namespace Pdt.C08
open Pdt Cache

theorem polars_never (c : Cache) (node : Ast) (h : c.backend = .polars) :
    c.requiresSubquery node = none := by
  unfold requiresSubquery
  simp [isSqlBackend, h]

/-- the state right after a `SubqueryMarker`: a fresh SELECT over a materialised source -/
structure MarkerState (c : Cache) : Prop where
  limit0 : c.limit = none
  noGroup : c.groupBy = []
  notFiltered : c.isFiltered = false
  ewise : ∀ e ∈ c.cols, e.2.ftype = .elementWise ∧ e.2.dtype.isConst = false

/-- no `const` below `const` (the constructor `Const.__init__` refuses it) -/
def wfDtype : Dtype → Bool
  | .const (.const _) => false
  | _ => true

theorem withoutConst_not_const (d : Dtype) (h : wfDtype d = true) : d.withoutConst.isConst = false := by
  cases d with
  | const b =>
    cases b with
    | const _ => cases h
    | _ => rfl
  | _ => rfl

theorem setUnion_nil_left (l : List Nat) : setUnion [] l = l.eraseDups := by
  simp [setUnion]

theorem marker_state (c : Cache) (id : NodeId) (child : Ast)
    (hwf : ∀ e ∈ c.cols, wfDtype e.2.dtype = true) :
    MarkerState (c.update (.subqueryMarker id child)) := by
  unfold Cache.update
  refine ⟨rfl, rfl, rfl, ?_⟩
  intro e he
  simp only [List.mem_map] at he
  obtain ⟨e0, he0, rfl⟩ := he
  exact ⟨rfl, withoutConst_not_const _ (hwf e0 he0)⟩

/-- what `check_subquery` establishes by re-binding the verb's `Col` leaves to the marker's columns -/
def LeavesEwise (node : Ast) : Prop :=
  ∀ root ∈ node.colRoots, ∀ ft ∈ colFtypes root, ft = .elementWise

/-- the column leaves below an aggregate / window sub-node are leaves of the whole expression -/
theorem sub_ftypes (P : Ftype → Prop) : ∀ (e : Expr), (∀ ft ∈ colFtypes e, P ft) →
    ∀ sub ∈ aggWindowNodes e, ∀ ft ∈ colFtypes sub, P ft := by
  intro e
  induction e using Expr.ind with
  | col _ _ _ => intro _ _ hs; cases hs
  | lit _ _ => intro _ _ hs; cases hs
  | cast e t ih => exact ih
  | fn op args part arr ihA ihP ihO =>
    intro h
    have hself := h
    rw [colFtypes, colFtypesList_eq_flatMap, colFtypesOrds_eq_flatMap] at h
    simp only [List.forall_mem_append, List.forall_mem_flatMap] at h
    rw [aggWindowNodes, aggWindowNodesList_eq_flatMap, aggWindowNodesOrds_eq_flatMap]
    simp only [List.forall_mem_append, List.forall_mem_flatMap]
    refine ⟨⟨⟨?_, fun a ha => ihA a ha (h.1.1 a ha)⟩, ?_⟩, fun o ho => ihO o ho (h.2 o ho)⟩
    · intro sub hs
      split at hs
      · cases List.mem_singleton.1 hs; exact hself
      · cases hs
    · cases part with
      | none => intro _ hs; cases hs
      | some l =>
        have hP := h.1.2
        rw [colFtypesOpt, colFtypesList_eq_flatMap, List.forall_mem_flatMap] at hP
        rw [aggWindowNodesOpt, aggWindowNodesList_eq_flatMap, List.forall_mem_flatMap]
        exact fun a ha => ihP l rfl a ha (hP a ha)
  | case bs d ihB ihD =>
    intro h
    cases d with
    | none =>
      rw [colFtypes, List.append_nil, colFtypesBranches_eq_flatMap, List.forall_mem_flatMap] at h
      rw [aggWindowNodes, List.append_nil, aggWindowNodesBranches_eq_flatMap, List.forall_mem_flatMap]
      exact fun b hb => List.forall_mem_append.2
        ⟨(ihB b hb).1 (List.forall_mem_append.1 (h b hb)).1, (ihB b hb).2 (List.forall_mem_append.1 (h b hb)).2⟩
    | some x =>
      rw [colFtypes, colFtypesBranches_eq_flatMap, List.forall_mem_append, List.forall_mem_flatMap] at h
      rw [aggWindowNodes, aggWindowNodesBranches_eq_flatMap, List.forall_mem_append, List.forall_mem_flatMap]
      exact ⟨fun b hb => List.forall_mem_append.2
        ⟨(ihB b hb).1 (List.forall_mem_append.1 (h.1 b hb)).1, (ihB b hb).2 (List.forall_mem_append.1 (h.1 b hb)).2⟩,
        ihD x rfl h.2⟩

theorem sub_ftypes_list (P : Ftype → Prop) : ∀ (l : List Expr), (∀ ft ∈ colFtypesList l, P ft) →
    ∀ sub ∈ aggWindowNodesList l, ∀ ft ∈ colFtypes sub, P ft := by
  intro l h
  rw [colFtypesList_eq_flatMap, List.forall_mem_flatMap] at h
  rw [aggWindowNodesList_eq_flatMap, List.forall_mem_flatMap]
  exact fun a ha => sub_ftypes P a (h a ha)

theorem sub_ftypes_opt (P : Ftype → Prop) : ∀ (l : Option (List Expr)), (∀ ft ∈ colFtypesOpt l, P ft) →
    ∀ sub ∈ aggWindowNodesOpt l, ∀ ft ∈ colFtypes sub, P ft
  | none, _ => fun _ hs => nomatch hs
  | some l, h => sub_ftypes_list P l h

theorem sub_ftypes_ords (P : Ftype → Prop) : ∀ (l : List (Expr × Bool × Option Bool)), (∀ ft ∈ colFtypesOrds l, P ft) →
    ∀ sub ∈ aggWindowNodesOrds l, ∀ ft ∈ colFtypes sub, P ft := by
  intro l h
  rw [colFtypesOrds_eq_flatMap, List.forall_mem_flatMap] at h
  rw [aggWindowNodesOrds_eq_flatMap, List.forall_mem_flatMap]
  exact fun o ho => sub_ftypes P o.1 (h o ho)

theorem sub_ftypes_branches (P : Ftype → Prop) : ∀ (l : List (Expr × Expr)), (∀ ft ∈ colFtypesBranches l, P ft) →
    ∀ sub ∈ aggWindowNodesBranches l, ∀ ft ∈ colFtypes sub, P ft := by
  intro l h
  rw [colFtypesBranches_eq_flatMap, List.forall_mem_flatMap] at h
  rw [aggWindowNodesBranches_eq_flatMap, List.forall_mem_flatMap]
  exact fun b hb => List.forall_mem_append.2
    ⟨sub_ftypes P b.1 (List.forall_mem_append.1 (h b hb)).1, sub_ftypes P b.2 (List.forall_mem_append.1 (h b hb)).2⟩

/-- **alias enables every verb**: in the state a `SubqueryMarker` leaves behind, no verb whose
    column leaves have been re-bound needs another subquery.  The join test reads `colLeaves on`,
    not `colFtypes`, and no lemma relates the two: for a join the condition on its leaves is the
    hypothesis `hon`.  `alias_enables` is about single-input verbs and never instantiates it. -/
theorem marker_accepts (c : Cache) (node : Ast) (hm : MarkerState c) (hroots : LeavesEwise node)
    (hon : ∀ on how i l r, node = .join i l r on how → ∀ lf ∈ colLeaves on, (c.col? lf.1).isSome → lf.2 = .elementWise) :
    c.requiresSubquery node = none := by
  have hleaves : ∀ root ∈ node.colRoots, ∀ sub ∈ aggWindowNodes root, ∀ ft ∈ colFtypes sub, ft = .elementWise :=
    fun root hr => sub_ftypes (· = .elementWise) root (hroots root hr)
  have hcache : ∀ u, (c.col? u).map (·.ftype) ≠ some .window := by
    intro u
    unfold Cache.col?
    cases hf : c.cols.find? (·.1 == u) with
    | none => simp
    | some e =>
      have := (hm.ewise e (List.mem_of_find?_eq_some hf)).1
      simp [this]
  have hconst : ∀ u, c.colIsConst u = false := by
    intro u
    unfold Cache.colIsConst Cache.col?
    cases hf : c.cols.find? (·.1 == u) with
    | none => simp
    | some e =>
      have := (hm.ewise e (List.mem_of_find?_eq_some hf)).2
      simp [this]
  have hrootF : ∀ ft ∈ node.colRoots.flatMap colFtypes, ft = .elementWise := List.forall_mem_flatMap.2 hroots
  have hnoWin : (node.colRoots.flatMap colFtypes).contains .window = false := by
    rw [List.contains_eq_any_beq, List.any_eq_false]
    intro x hx
    rw [hrootF x hx]; decide
  have hnoAgg : (node.colRoots.flatMap colFtypes).any isAggOrWindow = false := by
    rw [List.any_eq_false]
    intro x hx
    rw [hrootF x hx]; decide
  have hmut : node.colRoots.any (fun root => (aggWindowNodes root).any (fun sub => (colFtypes sub).any isAggOrWindow)) = false := by
    rw [List.any_eq_false]
    intro root hr
    rw [Bool.not_eq_true, List.any_eq_false]
    intro sub hs
    rw [Bool.not_eq_true, List.any_eq_false]
    intro ft hft
    rw [hleaves root hr sub hs ft hft]; decide
  have hpart : c.partitionBy.any (fun u => (c.col? u).map (·.ftype) == some .window) = false := by
    rw [List.any_eq_false]
    intro u _
    simpa using hcache u
  have hvisWin : c.uuidToName.any (fun e => (c.col? e.1).map (·.ftype) == some .window) = false := by
    rw [List.any_eq_false]
    intro e _
    simpa using hcache e.1
  have hvisConst : c.uuidToName.any (fun e => c.colIsConst e.1) = false := by
    rw [List.any_eq_false]
    intro e _
    rw [hconst e.1]; decide
  -- with every reason's condition false the verb kind no longer matters, except for the leaves of a join condition
  unfold requiresSubquery
  simp only [hm.limit0, hm.noGroup, hm.notFiltered, hnoWin, hnoAgg, hmut, hpart, hvisWin, hvisConst, Option.isSome_none,
    Bool.and_false, List.isEmpty_nil, Bool.not_true, Bool.false_and, Bool.false_eq_true, if_false, ite_self]
  split
  · rfl
  · split
    · split
      · rename_i i l r on how _
        have hno : ((colLeaves on).any fun lf => lf.2 != .elementWise && (c.col? lf.1).isSome) = false := by
          rw [List.any_eq_false]
          intro lf hlf hbad
          rw [Bool.and_eq_true, bne_iff_ne] at hbad
          exact hbad.1 (hon on how i l r rfl lf hlf hbad.2)
        rw [hno]; rfl
      · rfl
    · rfl

theorem marker_state_accepts (c : Cache) (node : Ast) (hm : MarkerState c)
    (hleaves : ∀ root ∈ node.colRoots, ∀ sub ∈ aggWindowNodes root, ∀ ft ∈ colFtypes sub, ft = .elementWise)
    (hroots : LeavesEwise node)
    (hon : ∀ on how i l r, node = .join i l r on how → ∀ lf ∈ colLeaves on, (c.col? lf.1).isSome → lf.2 = .elementWise) :
    c.requiresSubquery node = none :=
  marker_accepts c node hm hroots hon

/-! ### re-binding the verb's column leaves to the marker's columns -/

def leavesIn (cols : List (Uid × ColMeta)) (e : Expr) : Prop := ∀ u ∈ e.uids, (cols.find? (·.1 == u)).isSome

theorem rebindList_eq_map (cols : List (Uid × ColMeta)) (l : List Expr) : rebindList cols l = l.map (rebindCols cols) :=
  eq_map_of_rec rfl (fun _ _ => rfl) l

theorem rebindOrds_eq_map (cols : List (Uid × ColMeta)) (arr : List (Expr × Bool × Option Bool)) :
    rebindOrds cols arr = arr.map (fun o => (rebindCols cols o.1, o.2)) :=
  eq_map_of_rec rfl (fun _ _ => rfl) arr

theorem rebindBranches_eq_map (cols : List (Uid × ColMeta)) (bs : List (Expr × Expr)) :
    rebindBranches cols bs = bs.map (fun b => (rebindCols cols b.1, rebindCols cols b.2)) :=
  eq_map_of_rec rfl (fun _ _ => rfl) bs

theorem rebind_ftypes (cols : List (Uid × ColMeta)) (hc : ∀ e ∈ cols, e.2.ftype = .elementWise) :
    ∀ (e : Expr), (∀ u ∈ e.uids, (cols.find? (·.1 == u)).isSome = true) →
      ∀ ft ∈ colFtypes (rebindCols cols e), ft = .elementWise := by
  apply Expr.ind_uids
  case col =>
    intro u dt ft0 hu ft hft
    rw [rebindCols] at hft
    cases hf : cols.find? (·.1 == u) with
    | none => rw [hf] at hu; cases hu
    | some p =>
      rw [hf] at hft
      rw [List.mem_singleton.1 hft]
      exact hc p (List.mem_of_find?_eq_some hf)
  case lit => exact fun _ _ _ hft => nomatch hft
  case cast => exact fun e t ih => ih
  case fn =>
    intro op args part arr ihA ihP ihO
    rw [rebindCols, colFtypes, rebindList_eq_map, rebindOrds_eq_map, colFtypesList_eq_flatMap, colFtypesOrds_eq_flatMap]
    simp only [List.forall_mem_append, List.forall_mem_flatMap, List.forall_mem_map]
    refine ⟨⟨ihA, ?_⟩, ihO⟩
    cases part with
    | none => intro _ hft; cases hft
    | some l =>
      rw [rebindOpt, colFtypesOpt, rebindList_eq_map, colFtypesList_eq_flatMap, List.forall_mem_flatMap, List.forall_mem_map]
      exact ihP l rfl
  case case =>
    intro bs d ihB ihD
    have hB : ∀ ft ∈ colFtypesBranches (rebindBranches cols bs), ft = .elementWise := by
      rw [rebindBranches_eq_map, colFtypesBranches_eq_flatMap, List.forall_mem_flatMap, List.forall_mem_map]
      exact fun b hb => List.forall_mem_append.2 (ihB b hb)
    cases d with
    | none => rw [rebindCols, colFtypes, List.append_nil]; exact hB
    | some x =>
      rw [rebindCols, colFtypes, List.forall_mem_append]
      exact ⟨hB, ihD x rfl⟩

theorem rebind_ftypes_list (cols : List (Uid × ColMeta)) (hc : ∀ e ∈ cols, e.2.ftype = .elementWise) :
    ∀ (l : List Expr), (∀ u ∈ Expr.uidsList l, (cols.find? (·.1 == u)).isSome = true) →
      ∀ ft ∈ colFtypesList (rebindList cols l), ft = .elementWise := by
  intro l h
  rw [rebindList_eq_map, colFtypesList_eq_flatMap, List.forall_mem_flatMap, List.forall_mem_map]
  exact fun a ha => rebind_ftypes cols hc a (fun u hu => h u (Expr.mem_uidsList ha hu))

theorem rebind_ftypes_opt (cols : List (Uid × ColMeta)) (hc : ∀ e ∈ cols, e.2.ftype = .elementWise) :
    ∀ (l : Option (List Expr)), (∀ u ∈ Expr.uidsOptList l, (cols.find? (·.1 == u)).isSome = true) →
      ∀ ft ∈ colFtypesOpt (rebindOpt cols l), ft = .elementWise
  | none, _ => fun _ hft => nomatch hft
  | some l, h => rebind_ftypes_list cols hc l h

theorem rebind_ftypes_ords (cols : List (Uid × ColMeta)) (hc : ∀ e ∈ cols, e.2.ftype = .elementWise) :
    ∀ (l : List (Expr × Bool × Option Bool)), (∀ u ∈ Expr.uidsOrds l, (cols.find? (·.1 == u)).isSome = true) →
      ∀ ft ∈ colFtypesOrds (rebindOrds cols l), ft = .elementWise := by
  intro l h
  rw [rebindOrds_eq_map, colFtypesOrds_eq_flatMap, List.forall_mem_flatMap, List.forall_mem_map]
  exact fun o ho => rebind_ftypes cols hc o.1 (fun u hu => h u (Expr.mem_uidsOrds ho hu))

theorem rebind_ftypes_branches (cols : List (Uid × ColMeta)) (hc : ∀ e ∈ cols, e.2.ftype = .elementWise) :
    ∀ (l : List (Expr × Expr)), (∀ u ∈ Expr.uidsBranches l, (cols.find? (·.1 == u)).isSome = true) →
      ∀ ft ∈ colFtypesBranches (rebindBranches cols l), ft = .elementWise := by
  intro l h
  rw [rebindBranches_eq_map, colFtypesBranches_eq_flatMap, List.forall_mem_flatMap, List.forall_mem_map]
  exact fun b hb => List.forall_mem_append.2 ⟨rebind_ftypes cols hc b.1 (fun u hu => h u (Expr.mem_uidsBranches_cond hb hu)),
    rebind_ftypes cols hc b.2 (fun u hu => h u (Expr.mem_uidsBranches_val hb hu))⟩


/-- not a source, and not join / union, whose two inputs are checked separately -/
def singleInput : Ast → Bool
  | .join .. | .union .. | .source .. => false
  | _ => true

/-- what `preprocess_arg` and the verbs' argument checks guarantee before `check_subquery` runs -/
def InScope (cols : List (Uid × ColMeta)) (node : Ast) : Prop :=
  (∀ root ∈ node.colRoots, ∀ u ∈ root.uids, (cols.find? (·.1 == u)).isSome = true)

theorem rebindColArg_col (cols : List (Uid × ColMeta)) (a : Uid × ColMeta) :
    Expr.col (rebindColArg cols a).1 (rebindColArg cols a).2.dtype (rebindColArg cols a).2.ftype =
      rebindCols cols (.col a.1 a.2.dtype a.2.ftype) := by
  unfold rebindColArg rebindCols
  cases cols.find? (·.1 == a.1) <;> rfl

theorem colRoots_rebound (cols : List (Uid × ColMeta)) (node mk : Ast) :
    (((node.setChild mk).mapRoots (rebindCols cols)).mapColArgs (rebindColArg cols)).colRoots =
      node.colRoots.map (rebindCols cols) := by
  cases node <;>
    simp [Ast.setChild, Ast.mapRoots, Ast.mapColArgs, Ast.colRoots, Function.comp_def, rebindColArg_col]

theorem roots_rebound (cols : List (Uid × ColMeta)) (hc : ∀ e ∈ cols, e.2.ftype = .elementWise)
    (node : Ast) (hs : InScope cols node) (mk : Ast) :
    ∀ root ∈ (((node.setChild mk).mapRoots (rebindCols cols)).mapColArgs (rebindColArg cols)).colRoots,
      ∀ ft ∈ colFtypes root, ft = .elementWise := by
  intro root hroot
  rw [colRoots_rebound, List.mem_map] at hroot
  obtain ⟨e, he, rfl⟩ := hroot
  exact rebind_ftypes cols hc e (hs e he)

theorem rebound_not_join (cols : List (Uid × ColMeta)) (node mk : Ast) (h : singleInput node = true) :
    ∀ on how i l r, (((node.setChild mk).mapRoots (rebindCols cols)).mapColArgs (rebindColArg cols)) ≠ .join i l r on how := by
  intro on how i l r heq
  cases node with
  | join | union | source => cases h
  | _ => cases heq

/-- **Inserting `>> alias()` directly before a verb makes it accepted.**
    For every single-input verb `newAst` over columns in scope, applied to a table whose last node
    is an `alias`, whatever state that table is in (limit set, window columns, summarized,
    filtered …): `check_subquery` does not raise `SubqueryError`. -/
theorem alias_enables (aid : NodeId) (inner : Ast) (m : Option (List (Uid × Uid))) (nm : String)
    (cacheA : Cache) (newAst : Ast) (mk : NodeId)
    (hsingle : singleInput newAst = true)
    (hwf : ∀ e ∈ (Cache.fromAst (.alias aid inner m nm)).cols, wfDtype e.2.dtype = true)
    (hscope : InScope (Cache.fromAst (.alias aid inner m nm)).cols newAst) :
    ∃ r, checkSubquery newAst ⟨.alias aid inner m nm, cacheA⟩ false mk = .ok r := by
  unfold checkSubquery
  cases hreq : cacheA.requiresSubquery newAst with
  | none => exact ⟨_, rfl⟩
  | some reason =>
    simp only [preorder, checkSubquery.search, List.any_nil, Bool.false_eq_true, ↓reduceIte, List.reverse_nil,
      List.foldl_nil]
    have hfrom : Cache.fromAst (Ast.subqueryMarker mk (.alias aid inner m nm)) =
        (Cache.fromAst (.alias aid inner m nm)).update (Ast.subqueryMarker mk (.alias aid inner m nm)) := by
      simp only [Cache.fromAst]
    have hstate : MarkerState (Cache.fromAst (Ast.subqueryMarker mk (.alias aid inner m nm))) := by
      rw [hfrom]; exact marker_state _ mk _ hwf
    have hcols : (Cache.fromAst (Ast.subqueryMarker mk (.alias aid inner m nm))).cols =
        (Cache.fromAst (.alias aid inner m nm)).cols.map (fun e => (e.1, { e.2 with dtype := e.2.dtype.withoutConst, ftype := .elementWise })) := by
      rw [hfrom]; rfl
    have hscope' : InScope (Cache.fromAst (Ast.subqueryMarker mk (.alias aid inner m nm))).cols newAst := by
      intro root hr u hu
      rw [hcols, List.find?_map, Option.isSome_map]
      exact hscope root hr u hu
    have hew : ∀ e ∈ (Cache.fromAst (Ast.subqueryMarker mk (.alias aid inner m nm))).cols, e.2.ftype = .elementWise :=
      fun e he => (hstate.ewise e he).1
    have hroots := roots_rebound _ hew newAst hscope' (Ast.subqueryMarker mk (.alias aid inner m nm))
    have hacc := marker_accepts (Cache.fromAst (Ast.subqueryMarker mk (.alias aid inner m nm))) _ hstate hroots
      (fun on how i l r heq => absurd heq (rebound_not_join _ newAst _ hsingle on how i l r))
    simp [hacc]

/-- non-vacuity: a marker state with a column exists -/
example : MarkerState (Cache.ofSource 1 [("a", 1, .int64)] .sqlite) :=
  ⟨rfl, rfl, rfl, by decide⟩

end Pdt.C08
