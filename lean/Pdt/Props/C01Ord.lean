/-
  C01, what the invariant gives: a SELECT with the invariant evaluates to the rows of the reference table *in the same
  sequence* (both sides stably sort the same key table), for any select list over the scope (`invO_rows`).  Hence the
  refinement for the row-level fragment and for the ordered fragment `OFrag`.
-/
import Pdt.Props.C01Frag

namespace Pdt.C01
open Pdt Pdt.Spec Pdt.Sql

theorem transpose_ewise {α} (rows : List Row) (O : List α) (g : α → Expr) (h : ∀ o ∈ O, isEwise (g o) = true) :
    transpose (O.map (fun o => evalUnits (singletons rows) (g o))) rows.length = rows.map (fun r => O.map (fun o => evalRow r (g o))) := by
  have h1 : O.map (fun o => evalUnits (singletons rows) (g o)) = (O.map g).map (fun e => rows.map (fun r => evalRow r e)) := by
    rw [List.map_map]
    exact List.map_congr_left (fun o ho => evalCol_ewise rows (g o) (h o ho))
  rw [h1, transpose_pointwise (fun r e => evalRow r e) rows (O.map g)]
  simp [List.map_map, Function.comp_def]

theorem sortRows_map (O : List Ord) (f : Row → Row) (l : List Row) (h : isEwiseOrds O = true) :
    sortRows (l.map f) O = (sortedBase O f l).map f := by
  have hk : transpose (evalOrds (singletons (l.map f)) O) (l.map f).length = keyTable O f l := by
    rw [evalOrds_eq_map, transpose_ewise _ O (·.1) (fun o ho => (isEwiseList_iff _).1 h o.1 (List.mem_map.2 ⟨o, ho, rfl⟩)), List.map_map]
    rfl
  have hlen : (keyTable O f l).length = l.length := by simp [keyTable]
  unfold sortRows sortedBase
  rw [hk, List.map_map]
  simp only [List.length_map, ← hlen]
  refine List.map_congr_left (fun i hi => ?_)
  have hi' : i < l.length := hlen ▸ sortIdxOf_mem _ _ i hi
  simp [List.getD_eq_getElem?_getD, hi']

/-! ### SELECT … ORDER BY … LIMIT … OFFSET without aggregation -/

theorem cutIdx_mem (q : Query) (idx : List Nat) (i : Nat) (h : i ∈ cutIdx q idx) : i ∈ idx := by
  unfold cutIdx at h
  split at h
  · exact h
  · exact List.mem_of_mem_drop (List.mem_of_mem_take h)

theorem map_cutList {α β} (q : Query) (l : List α) (g : α → β) : (cutList q l).map g = cutList q (l.map g) := by
  unfold cutList
  cases q.limit with
  | none => rfl
  | some l => simp [List.map_take, List.map_drop]

theorem map_cutIdx {α} (q : Query) (idx : List Nat) (g : Nat → α) : (cutIdx q idx).map g = cutList q (idx.map g) :=
  map_cutList q idx g

theorem defsEwise_not_agg (d : Defs) (hd : DefsEwise d) (u : Uid) (p : String × Expr) (hp : d.get u = some p) :
    isAggQuery.aggNodes p.2 = false := by
  simp [isAggQuery.aggNodes, ewise_no_agg p.2 (hd u p.1 p.2 hp)]

theorem not_agg_of_defs (q : Query) (defs : Defs) (hn : ∀ u p, defs.get u = some p → isAggQuery.aggNodes p.2 = false)
    (hg : q.groupBy = []) : isAggQuery q defs = false := by
  unfold isAggQuery
  simp only [hg, List.isEmpty_nil, Bool.not_true, Bool.false_or]
  rw [List.any_eq_false]
  intro u _
  cases hgu : defs.get u with
  | none => simp
  | some p => simpa using hn u p hgu

theorem not_agg_of_ewise (q : Query) (defs : Defs) (hd : DefsEwise defs) (hg : q.groupBy = []) : isAggQuery q defs = false :=
  not_agg_of_defs q defs (defsEwise_not_agg defs hd) hg

theorem isAggQuery_of_groupBy {q : Query} (defs : Defs) (hg : q.groupBy ≠ []) : isAggQuery q defs = true := by
  rw [isAggQuery, Bool.or_eq_true, Bool.not_eq_true', List.isEmpty_eq_false_iff]
  exact Or.inl hg

theorem isAggQuery_of_mem {q : Query} {defs : Defs} {u : Uid} {p : String × Expr} (hu : u ∈ q.select) (hp : defs.get u = some p)
    (ha : isAggQuery.aggNodes p.2 = true) : isAggQuery q defs = true := by
  rw [isAggQuery, Bool.or_eq_true, List.any_eq_true]
  exact Or.inr ⟨u, hu, by rw [hp]; exact ha⟩

/-- the normal form of `evalSelect` for a SELECT that is not an aggregate query; window entries are allowed, keys and select
    entries are evaluated over all passing rows as singleton units.  For aggregate queries: `evalSelect_ungrouped_agg` /
    `evalSelect_grouped` (C01Gen); for any SELECT, up to its select list: `C08.evalSelect_core` (C08Marker). -/
theorem evalSelect_rowwise (base : List Row) (q : Query) (defs : Defs) (hagg : isAggQuery q defs = false) (hh : q.having = []) :
    evalSelect base q defs =
      let us := singletons (filterRows base (q.where_.map (inline defs)))
      let K := transpose (q.orderBy.map (fun o => evalUnits us (inline defs o.1))) us.length
      (cutIdx q (sortIdxOf K (ordSpec q.orderBy))).map (fun i => q.select.zip (q.select.map (fun u =>
        (evalUnits us (inline defs (.col u .null .elementWise))).getD i .null))) := by
  unfold evalSelect
  simp only [hagg, hh, List.map_nil, List.all_nil, Bool.false_eq_true, ↓reduceIte, zip_range_filter_true, List.map_map]
  generalize singletons (filterRows base (q.where_.map (inline defs))) = us
  generalize hKdef : transpose (q.orderBy.map (fun o => evalUnits us (inline defs o.1))) us.length = K
  have hKlen : us.length = K.length := by rw [← hKdef]; simp [transpose]
  -- `evalSelect` does not sort when ORDER BY is empty; sorting by no key leaves the positions as they are
  rw [hKlen]
  split
  · rename_i he; rw [List.isEmpty_iff.1 he, ordSpec, List.map_nil, sortIdxOf_nil_spec]; rfl
  · rfl

/-- … for element-wise definitions: keys and select entries row by row, on the FROM rows with the definitions inlined -/
theorem evalSelect_ordered (base : List Row) (q : Query) (defs : Defs) (hd : DefsEwise defs)
    (hg : q.groupBy = []) (hh : q.having = []) (hoe : isEwiseOrds q.orderBy = true) :
    evalSelect base q defs =
      let filtered := filterRows base (q.where_.map (inline defs))
      let K := filtered.map (fun b => q.orderBy.map (fun o => evalRow b (inline defs o.1)))
      (cutIdx q (sortIdxOf K (ordSpec q.orderBy))).map (fun i =>
        q.select.zip (q.select.map (fun u => evalRow (filtered.getD i []) (inline defs (.col u .null .elementWise))))) := by
  rw [evalSelect_rowwise base q defs (not_agg_of_ewise q defs hd hg) hh]
  dsimp only
  generalize filterRows base (q.where_.map (inline defs)) = filtered
  rw [show (singletons filtered).length = filtered.length by simp [singletons],
    transpose_ewise filtered q.orderBy (fun o => inline defs o.1) (fun o ho =>
      inline_ewise defs hd _ ((isEwiseList_iff _).1 hoe o.1 (List.mem_map.2 ⟨o, ho, rfl⟩)))]
  refine List.map_congr_left (fun i hi => ?_)
  have hi' : i < filtered.length := by simpa using sortIdxOf_mem _ _ i (cutIdx_mem q _ i hi)
  refine congrArg _ (List.map_congr_left (fun u _ => ?_))
  rw [evalUnits_ewise _ _ (inline_ewise defs hd _ (by simp [isEwise]))]
  simp [singletons, firstRow, List.getD_eq_getElem?_getD, hi']

theorem evalSelect_simple (base : List Row) (q : Query) (defs : Defs) (hd : DefsEwise defs)
    (hg : q.groupBy = []) (hh : q.having = []) (ho : q.orderBy = []) (hl : q.limit = none) :
    evalSelect base q defs =
      (filterRows base (q.where_.map (inline defs))).map
        (fun b => q.select.zip (q.select.map (fun u => evalRow b (inline defs (.col u .null .elementWise))))) := by
  rw [evalSelect_ordered base q defs hd hg hh (by rw [ho]; rfl)]
  simp only [ho, ordSpec, List.map_nil, sortIdxOf_nil_spec, cutIdx, hl, List.length_map]
  exact range_map_getD _ [] (fun b => q.select.zip (q.select.map (fun u => evalRow b (inline defs (.col u .null .elementWise)))))

theorem filterRows_inline (base : List Row) (d : Defs) (hd : DefsEwise d) (W : List Expr) (hW : isEwiseList W = true)
    (hc : Covers d (Expr.uidsList W)) (f : Row → Row) (hagree : ∀ b ∈ base, Agree d b (f b)) :
    filterRows base (W.map (inline d)) = base.filter (fun b => keeps W (f b)) := by
  rw [filterRows_ewise _ _ (inlineList_eq_map d W ▸ inline_ewise_list d hd W hW)]
  exact List.filter_congr (fun b hb => keeps_inline d b (f b) (hagree b hb) W hc)

/-- **`evalSelect_ordered` read through a row map**: when every FROM row `b` agrees with a row `f b` on the definitions, WHERE,
    ORDER BY and the select list are evaluated on the rows `f b`.  About `(d, base, f)`, not about the invariant: `invO_rows`
    and `C08.outer_rows_where` (`f = id`) are instances. -/
theorem evalSelect_agree (base : List Row) (q : Query) (d : Defs) (hd : DefsEwise d) (hg : q.groupBy = []) (hh : q.having = [])
    (hw : isEwiseList q.where_ = true) (hoe : isEwiseOrds q.orderBy = true) (hcw : Covers d (Expr.uidsList q.where_))
    (hco : Covers d (Expr.uidsList (q.orderBy.map (·.1)))) (hcs : Covers d q.select)
    (f : Row → Row) (hagree : ∀ b ∈ base, Agree d b (f b)) :
    evalSelect base q d = (cutList q (sortedBase q.orderBy f (base.filter (fun b => keeps q.where_ (f b))))).map
      (fun b => q.select.zip (q.select.map (f b).get)) := by
  rw [evalSelect_ordered _ q _ hd hg hh hoe]
  simp only [filterRows_inline base d hd _ hw hcw f hagree]
  generalize hl : base.filter (fun b => keeps q.where_ (f b)) = l
  have hbase : ∀ b ∈ l, b ∈ base := fun b hb => (List.mem_filter.1 (hl ▸ hb)).1
  have hK : l.map (fun b => q.orderBy.map (fun o => evalRow b (inline d o.1))) = keyTable q.orderBy f l :=
    List.map_congr_left (fun b hb => List.map_congr_left (fun o ho => inline_eval d b (f b) (hagree b (hbase b hb)) o.1
      (fun u hu => hco u (Expr.mem_uidsList (List.mem_map.2 ⟨o, ho, rfl⟩) hu))))
  rw [hK, sortedBase, ← map_cutIdx, List.map_map]
  refine List.map_congr_left (fun i hi => ?_)
  have hi' : i < l.length := by simpa [keyTable] using sortIdxOf_mem _ _ i (cutIdx_mem _ _ i hi)
  have hb : l.getD i [] ∈ base := by
    rw [show l.getD i [] = l[i] by simp [List.getD_eq_getElem?_getD, hi']]; exact hbase _ (List.getElem_mem hi')
  exact congrArg _ (List.map_congr_left (fun u hu => inline_eval_col d _ _ (hagree _ hb) (hcs u hu) _ _))

/-! ### the rows and the frame of a SELECT with the invariant -/

variable {db : DB} {sc : List Uid} {lim : Bool} {r : Compiled} {t : STbl}

/-- for any select list `S` over the scope, not only `r.query.select`: a union re-selects its right operand (`C07.inv_rows`) -/
theorem invO_rows (h : InvO db sc lim r t) (S : List Uid) (hS : ∀ u ∈ S, u ∈ sc) :
    evalSelect (evalSrc db r.src) { r.query with select := S } r.defs = t.rows.map (fun s => S.zip (S.map s.get)) := by
  obtain ⟨f, hrows, hagree, _⟩ := h.hrows
  rw [hrows, List.map_map]
  exact evalSelect_agree _ { r.query with select := S } _ h.hd h.hg h.hh h.hw.1 h.hoe.1 (h.covers h.hw.2) (h.covers h.hoe.2) (h.covers hS)
    f hagree

/-- **the invariant gives the refinement**: same labels, same rows in the same sequence -/
theorem invO_refines (db : DB) (sc : List Uid) (lim : Bool) (r : Compiled) (t : STbl) (h : InvO db sc lim r t) :
    Sql.run db r = t.frame := by
  -- the `show … from rfl` only puts the query in the form `invO_rows` is stated for
  rw [Sql.run, show r.query = { r.query with select := r.query.select } from rfl, invO_rows h _ h.sel_scope, h.labels, List.map_map]
  simp only [Function.comp_def, Row.map_get_zip_map]
  rw [h.hsel]
  simp only [STbl.frame, List.map_map, Function.comp_def]

theorem inv_refines (db : DB) (sc : List Uid) (r : Compiled) (t : STbl) (h : Inv db sc r t) : Sql.run db r = t.frame :=
  invO_refines db sc false r t h.toO

/-- **refinement for the row-level fragment** (headline name: `refinement_rowlevel`, C01.lean) -/
theorem sql_refines_spec_rowlevel {ast : Ast} {sc : List Uid} (h : Frag ast sc) (db : DB) (needed : Needed) :
    ∃ r n', compile ast needed = .ok (r, n') ∧ Sql.run db r = (Spec.run db ast).frame := by
  obtain ⟨r, n', hc, inv⟩ := frag_refines h db needed
  exact ⟨r, n', hc, inv_refines db sc r _ inv⟩

/-! ### the ordered fragment -/

theorem Inv.arrange (inv : Inv db sc r t) (ords : List Ord) (he : isEwiseOrds ords = true)
    (hu : ∀ u ∈ Expr.uidsList (ords.map (·.1)), u ∈ sc) :
    InvO db sc false { r with query := { r.query with orderBy := ords ++ r.query.orderBy } } { t with rows := sortRows t.rows ords } := by
  obtain ⟨f, h1, h2, h3⟩ := inv.hrows
  refine { inv with hlim := fun _ => inv.hl, hoe := ?_, hrows := ⟨f, ?_, h2, h3⟩ }
  · simp only [inv.ho, List.append_nil]; exact ⟨he, hu⟩
  · simp only [inv.ho, List.append_nil, h1, sortRows_map ords f _ he]
    simp [cutList, inv.hl, passing]

theorem InvO.slice (inv : InvO db sc false r t) (n off : Int) :
    InvO db sc true { r with query := { r.query with limit := some n, offset := some off } }
      { t with rows := (t.rows.drop off.toNat).take n.toNat } := by
  obtain ⟨f, h1, h2, h3⟩ := inv.hrows
  refine { inv with hlim := nofun, hrows := ⟨f, ?_, h2, h3⟩ }
  simp only [h1, cutList, inv.hlim rfl, passing, Option.getD_some, List.map_take, List.map_drop]

/-- what the ordered fragment needs of the pipeline below; given by `frag_refines` and, for joins of source tables followed by
    row-level verbs, by `C06.jfrag_refines` -/
def Refines (c : Ast) (sc : List Uid) : Prop :=
  ∀ (db : DB) (needed : Needed), ∃ r n', compile c needed = .ok (r, n') ∧ Inv db sc r (Spec.run db c)

theorem Frag.refines {c : Ast} {sc : List Uid} (h : Frag c sc) : Refines c sc := fun db needed => frag_refines h db needed

/-- a base pipeline (`Refines`), optionally one `arrange`, then `select` / `rename` / element-wise `mutate`, optionally a
    `slice_head` and again such verbs.  The Bool says whether a LIMIT has been set. -/
inductive OFrag : Ast → List Uid → Bool → Prop
  | base {c sc} : Refines c sc → OFrag c sc false
  | arrange {c sc} (i : NodeId) (ords : List Ord) : Refines c sc → isEwiseOrds ords = true →
      (∀ u ∈ Expr.uidsList (ords.map (·.1)), u ∈ sc) → OFrag (.arrange i c ords) sc false
  | select {c sc lim} (i : NodeId) (cols : List (Uid × ColMeta)) : OFrag c sc lim →
      (∀ db, ∀ cu ∈ cols, ∃ e ∈ (Spec.run db c).visible, e.2 = cu.1) → OFrag (.select i c cols) sc lim
  | rename {c sc lim} (i : NodeId) (m : List (String × String)) : OFrag c sc lim → OFrag (.rename i c m) sc lim
  | mutate {c sc lim} (i : NodeId) (L : List (String × Uid × Expr)) (metas : List (Dtype × Ftype)) : OFrag c sc lim →
      isEwiseList (L.map (·.2.2)) = true → (∀ u ∈ Expr.uidsList (L.map (·.2.2)), u ∈ sc) →
      (∀ t ∈ L, t.2.1 ∉ sc) → (L.map (·.2.1)).Nodup →
      OFrag (.mutate i c (L.map (·.1)) (L.map (·.2.2)) (L.map (·.2.1)) metas) (sc ++ L.map (·.2.1)) lim
  | slice {c sc} (i : NodeId) (n off : Int) : OFrag c sc false → OFrag (.sliceHead i c n off) sc true

theorem ofrag_inv {ast : Ast} {sc : List Uid} {lim : Bool} (h : OFrag ast sc lim) (db : DB) :
    ∀ needed, ∃ r n', compile ast needed = .ok (r, n') ∧ InvO db sc lim r (Spec.run db ast) := by
  induction h with
  | base hf =>
    intro needed
    obtain ⟨r, n', hc, inv⟩ := hf db needed
    exact ⟨r, n', hc, inv.toO⟩
  | arrange i ords hf he hu => exact compile_step_lift rfl rfl (hf db) (fun _ inv => inv.arrange ords he hu)
  | select i cols _ hsel ih => exact compile_step_lift rfl rfl ih (fun _ inv => inv.select cols (hsel db))
  | rename i m _ ih => exact compile_step_lift rfl rfl ih (fun _ inv => inv.rename m)
  | mutate i L metas _ hv hu hfresh hnd ih =>
    exact compile_step_lift rfl rfl ih (fun r inv => by
      rw [step, setDefs_fresh inv.hkeys ⟨hfresh, hnd⟩, run_mutate_ewise db i _ L metas hv]
      exact inv.mutate L hv hu ⟨hfresh, hnd⟩)
  | slice i n off _ ih =>
    exact compile_step_lift rfl rfl ih (fun r inv => by
      rw [step, inv.hlim rfl]
      exact inv.slice n off)

/-- **refinement with order and limit** (headline name: `refinement_ordered`, C01.lean): same names, same rows *in the same
    sequence* -/
theorem sql_refines_spec_ordered {ast : Ast} {sc : List Uid} {lim : Bool} (h : OFrag ast sc lim) (db : DB) (needed : Needed) :
    ∃ r n', compile ast needed = .ok (r, n') ∧ Sql.run db r = (Spec.run db ast).frame := by
  obtain ⟨r, n', hc, inv⟩ := ofrag_inv h db needed
  exact ⟨r, n', hc, invO_refines db sc lim r _ inv⟩

end Pdt.C01
