/-
  C13, fourth clause, for every argument tuple: the trie of a single signature is a path, and a
  const key on that path is matched by const arguments only (`convertsTo a (.const b)` is false
  for a column type `a`).  So `constParamsRejectAt s args` holds for every `args`, given that the
  trie of `s` builds and its vararg positions agree in constness (`sigWf`).
-/
import Pdt.Props.C13Defs
import Pdt.Props.Lemmas.Lists

namespace Pdt
open Dtype

theorem isConst_withConst (d : Dtype) : d.withConst.isConst = true := by
  cases d <;> rfl

theorem isConst_of_convertsTo (a t : Dtype) (ht : t.isConst = true) (h : convertsTo a t = true) :
    a.isConst = true := by
  cases t with
  | const b =>
    cases a with
    | const _ => rfl
    | _ => cases h
  | _ => cases ht

theorem isConst_matchDtype (tv : Tyvars) (k : Dtype) (h : k.isConst = true) :
    (matchDtype tv k).isConst = true := by
  unfold matchDtype
  split
  · split
    · rw [if_pos h]; exact isConst_withConst _
    · exact h
  · exact h

theorem tyvarLoop_none_added (recur : Tyvars → Option (List Match)) (tvKey a : Dtype) (tv : Tyvars)
    (already : List Dtype) (ds : List Dtype) (acc : List Match)
    (h : ∀ d ∈ ds, convertsTo a (if tvKey.isConst then d.withConst else d) = true →
      recur (tv.set (tyvarName tvKey.withoutConst) (if tvKey.isConst then d.withConst else d)) = some []) :
    tyvarLoop recur tvKey a tv already ds acc = some acc := by
  induction ds with
  | nil => rfl
  | cons d ds ih =>
    have ih' := ih (fun d' hd' => h d' (List.mem_cons_of_mem _ hd'))
    unfold tyvarLoop
    by_cases hc : convertsTo a (if tvKey.isConst then d.withConst else d) = true
    · simp only [hc, h d List.mem_cons_self hc, Bool.and_true, List.map_nil, List.append_nil, ih']
      split <;> rfl
    · simp only [hc, Bool.and_false, Bool.false_eq_true, if_false, ih']

/-- `h` may assume `k const → a const`: the child is walked only when `a` converts to what the key
    is matched as (its binding, for a type variable), and that is const when `k` is -/
theorem matchChildren_single (self : Trie) (recur : Trie → Tyvars → Option (List Match))
    (a : Dtype) (tv : Tyvars) (k : Dtype) (ch : Option Trie) (hself : self.children = [(k, ch)])
    (h : (k.isConst = true → a.isConst = true) → ∀ tv', recur (ch.getD self) tv' = some []) :
    matchChildren self recur a tv self.children [] none = some [] := by
  rw [hself]
  simp only [matchChildren]
  split
  · apply tyvarLoop_none_added
    intro d _ hc
    simp only [hself, List.find?, beq_self_eq_true]
    have hr := h (fun hk => isConst_of_convertsTo a _ (by rw [if_pos hk]; exact isConst_withConst d) hc)
    cases ch <;> exact hr _
  · split
    · rename_i hconv
      have hr := h (fun hk => isConst_of_convertsTo a _ (isConst_matchDtype tv k hk) hconv)
      cases ch <;> simp only [Option.getD] at hr <;> simp only [hr, List.map_nil, List.append_nil]
    · rfl

/-- `Trie.empty.insert ps d va last` is a chain of one-child nodes keyed by `ps`, ending in a data
    node; for a vararg signature the last listed type is dropped and the data node loops on itself
    under the type before it (`last`).  `loopKeysAgree`: that dropped type, and the type `lp` that
    `constParamsRejectAt` holds against the repeated positions, are const exactly when the key of
    the self-loop is.  The recursion is that of `Trie.insert`, so `loopKeysAgree.induct` is the
    induction along the path. -/
def loopKeysAgree : List Dtype → Bool → Option Dtype → Dtype → Bool
  | [], _, _, _ => true
  | [x], true, last, lp =>
      x.isConst == (last.getD .null).isConst && lp.isConst == (last.getD .null).isConst
  | p :: rest, va, _, lp => loopKeysAgree rest va (some p) lp

theorem insert_empty_cons (p : Dtype) (rest : List Dtype) (va : Bool) (last : Option Dtype) (d : Dtype)
    (h : va = true → rest = [] → False) :
    Trie.empty.insert (p :: rest) d va last =
      (Trie.empty.insert rest d va (some p)).map (fun c => .node [(p, some c)] none) := by
  rw [Trie.empty, Trie.insert]
  · rfl
  · exact h

/-- the data node of a vararg signature, which loops on itself under the key `lt` (case 2 of `allMatches_path`) -/
theorem allMatches_loop (lt d : Dtype) (hlt : lt.isConst = true) (args : List Dtype) (i : Nat)
    (hi : i < args.length) (ha : (args.getD i .null).isConst = false) (tv : Tyvars) :
    allMatches args (.node [(lt, none)] (some d)) tv = some [] := by
  induction args generalizing i tv with
  | nil => cases hi
  | cons a as ih =>
    refine matchChildren_single _ _ a tv lt none rfl fun hpa tv' => ?_
    cases i with
    | zero => rw [List.getD_cons_zero, hpa hlt] at ha; cases ha
    | succ j => exact ih j (Nat.lt_of_succ_lt_succ hi) ha tv'

theorem allMatches_path (ps : List Dtype) (va : Bool) (last : Option Dtype) (lp : Dtype) (d : Dtype) (t : Trie)
    (ht : Trie.empty.insert ps d va last = some t) (he : loopKeysAgree ps va last lp = true)
    (args : List Dtype) (i : Nat) (hi : i < args.length)
    (hp : (ps.getD i lp).isConst = true) (ha : (args.getD i .null).isConst = false) (tv : Tyvars) :
    allMatches args t tv = some [] := by
  induction ps, va, last, lp using loopKeysAgree.induct generalizing t args i tv with
  | case1 =>
    cases Option.some.inj ht
    cases args with
    | nil => cases hi
    | cons a as => rfl
  | case2 x last lp =>
    cases last with
    | none => cases ht
    | some lt =>
      cases Option.some.inj ht
      simp only [loopKeysAgree, Option.getD_some, Bool.and_eq_true, beq_iff_eq] at he
      refine allMatches_loop lt d ?_ args i hi ha tv
      cases i with
      | zero => exact he.1 ▸ hp
      | succ j => exact he.2 ▸ hp
  | case3 p rest va last lp hside ih =>
    rw [insert_empty_cons p rest va last d hside, Option.map_eq_some_iff] at ht
    obtain ⟨c, hc, rfl⟩ := ht
    rw [loopKeysAgree.eq_3 _ _ _ _ _ hside] at he
    cases args with
    | nil => cases hi
    | cons a as =>
      refine matchChildren_single _ _ a tv p (some c) rfl fun hpa tv' => ?_
      cases i with
      | zero => rw [List.getD_cons_zero, hpa hp] at ha; cases ha
      | succ j => exact ih c hc he as j (Nat.lt_of_succ_lt_succ hi) hp ha tv'

namespace C13

def sigWf (s : Sig) : Bool :=
  (Trie.build [s]).isSome &&
    loopKeysAgree s.params s.vararg none (s.params.getD (s.params.length - 2) .null)

theorem build_single (s : Sig) : Trie.build [s] = Trie.empty.insert s.params s.ret s.vararg none := by
  simp [Trie.build]

/-- **a parameter declared const rejects non-const arguments**, for every argument tuple -/
theorem constParamsRejectAt_of_sigWf (s : Sig) (h : sigWf s = true) (args : List Dtype) :
    constParamsRejectAt s args = true := by
  rw [sigWf, Bool.and_eq_true, Option.isSome_iff_exists] at h
  obtain ⟨⟨t1, ht1⟩, hk⟩ := h
  unfold constParamsRejectAt
  simp only [getD_of_lt_else]
  cases hv : (List.range args.length).any _ with
  | false => rfl
  | true =>
    obtain ⟨i, hi, hbad⟩ := List.any_eq_true.1 hv
    rw [Bool.and_eq_true, Bool.not_eq_true'] at hbad
    have hnone := allMatches_path s.params s.vararg none _ s.ret t1 (build_single s ▸ ht1) hk args i
      (List.mem_range.1 hi) hbad.1 hbad.2 []
    simp only [ht1, resolveTrie, allMatchesData, hnone, Bool.not_true, Bool.false_or]

end C13
end Pdt
