/-
  C01, an ungrouped `summarize(n₁ = agg₁(e₁), …, nₖ = aggₖ(eₖ))` of plain aggregates over element-wise arguments on top of
  any `Base` pipeline, e.g. `source >> (select | rename | filter | mutate)*`: `SELECT agg(e) … FROM t WHERE …` without
  GROUP BY evaluates to the one-row frame of the reference semantics.  The instance of `sql_refines_spec_summarize_gen`
  (C01Gen.lean) for such values.
-/
import Pdt.Props.C01Gen

namespace Pdt.C01
open Pdt Pdt.Spec Pdt.Sql

/-- one plain aggregate (no `partition_by`, no `arrange`) over element-wise arguments in scope -/
def SimpleAgg (sc : List Uid) (e : Expr) : Prop :=
  ∃ op args, e = .fn op args none [] ∧ opFtype op = .aggregate ∧ isEwiseList args = true ∧ ∀ u ∈ Expr.uidsList args, u ∈ sc

theorem plainAgg_facts (op : String) (args : List Expr) (hop : opFtype op = .aggregate) :
    bareFree (.fn op args none []) = true ∧ isAggQuery.aggNodes (.fn op args none []) = true := by
  simp [bareFree, isAggQuery.aggNodes, Cache.aggWindowNodes, isPlainAgg, hop]

theorem evalList_head_inline (d : Defs) (f : Row → Row) (bs : List Row) (hag : ∀ b ∈ bs, Agree d b (f b)) (hd : DefsEwise d)
    (args : List Expr) (_ : isEwiseList args = true) (hc : Covers d (Expr.uidsList args)) :
    (evalList (bs.map (fun r => [r])) (inlineList d args)).headD [] = (evalList ((bs.map f).map (fun r => [r])) args).headD [] := by
  rw [inline_units_list d hd f args _ (good_singletons d f bs hag) hc, List.map_map, List.map_map]; rfl

theorem agg_inline_units (d : Defs) (hd : DefsEwise d) (f : Row → Row) (bs : List Row) (hag : ∀ b ∈ bs, Agree d b (f b))
    (op : String) (args : List Expr) (hop : opFtype op = .aggregate) (he : isEwiseList args = true)
    (hc : Covers d (Expr.uidsList args)) :
    evalUnits [bs] (inline d (.fn op args none [])) = evalUnits [bs.map f] (.fn op args none []) :=
  inline_units_bf d hd f _ [bs] (fun un hun b hb => hag b (by rw [List.mem_singleton] at hun; exact hun ▸ hb))
    (plainAgg_facts op args hop).1 (fun u hu => hc u (by simpa [Expr.uids, Expr.uidsOptList, Expr.uidsOrds] using hu))

/-- **refinement for an ungrouped summarize of plain aggregates** (at least one) over any `Base`: `compile` succeeds and the
    SELECT evaluates to the one-row frame of the reference semantics, for every database and `needed_cols` state -/
theorem sql_refines_spec_summarize {c : Ast} {sc : List Uid} (h : Base c sc) (db : DB) (i : NodeId)
    (L : List (String × Uid × Expr)) (metas : List (Dtype × Ftype)) (hne : L ≠ [])
    (hv : ∀ t ∈ L, SimpleAgg sc t.2.2) (hfresh : ∀ t ∈ L, t.2.1 ∉ sc) (hnd : (L.map (·.2.1)).Nodup) (needed : Needed) :
    ∃ r n', compile (.summarize i c (L.map (·.1)) (L.map (·.2.2)) (L.map (·.2.1)) metas) needed = .ok (r, n') ∧
      Sql.run db r = (Spec.run db (.summarize i c (L.map (·.1)) (L.map (·.2.2)) (L.map (·.2.1)) metas)).frame := by
  refine sql_refines_spec_summarize_gen h db i L metas ?_ ?_ ?_ hfresh hnd needed
  · obtain ⟨t, ht⟩ := List.exists_mem_of_ne_nil L hne
    obtain ⟨op, args, hx, hop, _, _⟩ := hv t ht
    exact ⟨t, ht, by rw [hx]; exact (plainAgg_facts op args hop).2⟩
  · intro t ht u hu
    obtain ⟨op, args, hx, _, _, hsc⟩ := hv t ht
    exact hsc u (by rw [hx] at hu; simpa [Expr.uids, Expr.uidsOptList, Expr.uidsOrds] using hu)
  · intro t ht
    obtain ⟨op, args, hx, hop, _, _⟩ := hv t ht
    rw [hx]; exact (plainAgg_facts op args hop).1

/-- non-vacuity: `t >> filter(t.a > 0) >> summarize(s = t.b.sum(), n = count())` meets the hypotheses -/
example : ∃ sc, Frag (.filter 2 (.source 1 "t" [("a", 10, .int64), ("b", 11, .int64)] .sqlite)
      [.fn "greater_than" [.col 10 .int64 .elementWise, .lit (.int 0) .int64] none []]) sc ∧
    (∀ t ∈ [("s", 12, Expr.fn "sum" [.col 11 .int64 .elementWise] none []), ("n", 13, Expr.fn "count_star" [] none [])],
      SimpleAgg sc t.2.2 ∧ t.2.1 ∉ sc) := by
  refine ⟨_, Frag.filter 2 _ (Frag.source 1 "t" _ .sqlite (by decide)) (by decide +kernel) (by decide), ?_⟩
  intro t ht
  simp only [List.mem_cons, List.not_mem_nil, or_false] at ht
  rcases ht with rfl | rfl
  · exact ⟨⟨"sum", _, rfl, by decide +kernel, by decide +kernel, by decide⟩, by decide⟩
  · exact ⟨⟨"count_star", _, rfl, by decide +kernel, by decide +kernel, by decide⟩, by decide⟩

end Pdt.C01
