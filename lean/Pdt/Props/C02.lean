/-
  C02 — single-table row-level verbs compute their documented meaning: what `Spec.run` does, verb by
  verb, to the rows, the visible names and the grouping state.  No back end is mentioned.
-/
import Pdt.Props.Lemmas.Run
import Pdt.Props.Lemmas.Rows

namespace Pdt.C02
open Pdt Pdt.Spec

/-- `select` / `drop` only hide columns: the rows keep every column, hidden ones included -/
theorem select_only_hides (db : DB) (i : NodeId) (c : Ast) (cols : List (Uid × ColMeta)) :
    (run db (.select i c cols)).rows = (run db c).rows ∧ (run db (.select i c cols)).group = (run db c).group :=
  ⟨rfl, rfl⟩

theorem select_visible (db : DB) (i : NodeId) (c : Ast) (cols : List (Uid × ColMeta)) :
    (run db (.select i c cols)).visible = cols.filterMap (fun cu => (run db c).visible.find? (·.2 == cu.1)) :=
  rfl

theorem rename_only_names (db : DB) (i : NodeId) (c : Ast) (m : List (String × String)) :
    (run db (.rename i c m)).rows = (run db c).rows ∧
    (run db (.rename i c m)).visible.map (·.2) = (run db c).visible.map (·.2) :=
  ⟨rfl, List.map_map ..⟩

theorem filter_sublist (rows : List Row) (preds : List Expr) : (filterRows rows preds).Sublist rows := by
  have h := (List.filter_sublist (p := (·.2)) (l := rows.zip (matchRows rows preds))).map (·.1)
  rwa [List.map_fst_zip (by simp [matchRows])] at h

theorem filter_rows (db : DB) (i : NodeId) (c : Ast) (preds : List Expr) :
    (run db (.filter i c preds)).rows = filterRows (run db c).rows preds ∧
    (run db (.filter i c preds)).visible = (run db c).visible :=
  ⟨rfl, rfl⟩

/-- `filter` keeps exactly the rows at which every predicate evaluates to `true`; null is not true -/
theorem matchRows_spec (rows : List Row) (preds : List Expr) (i : Nat) (hi : i < rows.length) :
    (matchRows rows preds).getD i false = preds.all (fun p => (evalCol rows p).getD i .null == .bool true) := by
  unfold matchRows
  simp [List.getD_eq_getElem?_getD, hi, List.all_map]
  rfl

theorem filter_no_predicate (rows : List Row) : filterRows rows [] = rows :=
  (filterRows_ewise rows [] rfl).trans (filter_keeps_nil rows)

/-- `slice_head(n, offset=off)` keeps rows off … off+n-1 of the current order -/
theorem slice_rows (db : DB) (i : NodeId) (c : Ast) (n off : Int) :
    (run db (.sliceHead i c n off)).rows = ((run db c).rows.drop off.toNat).take n.toNat :=
  rfl

/-- `.alias i c none nm` is `alias(keep_col_refs=True)` -/
theorem group_ungroup_alias_data_id (db : DB) (i : NodeId) (c : Ast) (cols : List (Uid × ColMeta)) (add : Bool) (nm : String) :
    (run db (.groupBy i c cols add)).rows = (run db c).rows ∧ (run db (.groupBy i c cols add)).visible = (run db c).visible ∧
    (run db (.ungroup i c)).rows = (run db c).rows ∧ (run db (.ungroup i c)).visible = (run db c).visible ∧
    (run db (.alias i c none nm)).rows = (run db c).rows ∧ (run db (.alias i c none nm)).visible = (run db c).visible ∧
    (run db (.subqueryMarker i c)).rows = (run db c).rows :=
  ⟨rfl, rfl, rfl, rfl, rfl, rfl, rfl⟩

/-- a plain `alias()` renames identities and nothing else -/
theorem alias_data (db : DB) (i : NodeId) (c : Ast) (mp : List (Uid × Uid)) (nm : String) :
    (run db (.alias i c (some mp) nm)).visible.map (·.1) = (run db c).visible.map (·.1) ∧
    (run db (.alias i c (some mp) nm)).rows.map (·.map (·.2)) = (run db c).rows.map (·.map (·.2)) := by
  simp [run_alias_some, List.map_map, Function.comp_def]

theorem mutate_length (db : DB) (i : NodeId) (c : Ast) (names : List String) (vals : List Expr) (uuids : List Uid)
    (metas : List (Dtype × Ftype)) :
    (run db (.mutate i c names vals uuids metas)).rows.length = (run db c).rows.length := by
  rw [run_mutate, List.length_map, List.length_range]

/-- an old column keeps its value in every row, whatever the same `mutate` (re)defines: new columns
    are appended behind the old ones and `Row.get` reads the first entry of an identity -/
theorem mutate_keeps_old (db : DB) (i : NodeId) (c : Ast) (names : List String) (vals : List Expr) (uuids : List Uid)
    (metas : List (Dtype × Ftype)) (k : Nat) (hk : k < (run db c).rows.length) (u : Uid)
    (hu : (((run db c).rows.getD k []).find? (·.1 == u)).isSome) :
    Row.get ((run db (.mutate i c names vals uuids metas)).rows.getD k []) u = Row.get ((run db c).rows.getD k []) u := by
  rw [run_mutate, List.getD_eq_getElem?_getD, List.getElem?_map, List.getElem?_range hk]
  exact get_append_left2 _ _ u hu

/-- **every expression of a `mutate` is evaluated against the table as it was before the call**
    (so `mutate(a = b, b = a)` swaps): row k is the old row k followed by one entry per new identity -/
theorem mutate_new_column (db : DB) (i : NodeId) (c : Ast) (names : List String) (vals : List Expr) (uuids : List Uid)
    (metas : List (Dtype × Ftype)) (k : Nat) (hk : k < (run db c).rows.length) :
    ((run db (.mutate i c names vals uuids metas)).rows.getD k []) =
      ((run db c).rows.getD k []) ++ (uuids.zip (vals.map (evalCol (run db c).rows))).map (fun uc => (uc.1, uc.2.getD k .null)) := by
  rw [run_mutate, List.getD_eq_getElem?_getD, List.getElem?_map, List.getElem?_range hk]
  rfl

theorem mutate_visible (db : DB) (i : NodeId) (c : Ast) (names : List String) (vals : List Expr) (uuids : List Uid)
    (metas : List (Dtype × Ftype)) :
    (run db (.mutate i c names vals uuids metas)).visible =
      (run db c).visible.filter (fun e => !names.contains e.1) ++ names.zip uuids :=
  rfl

theorem frame_shape (t : STbl) : t.frame.1 = t.visible.map (·.1) ∧ t.frame.2.length = t.rows.length ∧
    ∀ r ∈ t.frame.2, r.length = t.visible.length := by
  refine ⟨rfl, by simp [STbl.frame], ?_⟩
  intro r hr
  simp only [STbl.frame, List.mem_map] at hr
  obtain ⟨row, _, rfl⟩ := hr
  simp

example : filterRows [[(1, .int 1)], [(1, .null)], [(1, .int 3)]] [.fn "greater_than" [.col 1 .int64 .elementWise, .lit (.int 0) .int64] none []]
    = [[(1, .int 1)], [(1, .int 3)]] := by decide +kernel

end Pdt.C02
