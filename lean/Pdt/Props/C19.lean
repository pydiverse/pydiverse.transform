/-
  C19, second clause — every operator overload accepted by the type checker has, on every backend,
  an implementation or `NotSupportedError`: `get_impl` never fails internally — on the argument
  tuples of C13's universe for an operator with typed implementations, on the one call `args = []` for one without
  (`implTotalOp`).  The first clause (`build_query` returns one SELECT or a documented
  exception on every dialect, the same text every time) is established by execution only.  The
  implementation stores of all importable backend classes are regenerated from the source on
  every run (`Gen.ImplCoverage`).
-/
import Pdt.Model.Impl
import Pdt.Props.C13Check

namespace Pdt.C19
open Pdt

def okResult : ImplResult → Bool
  | .internalError => false
  | _ => true

/-- without typed implementations the lookup does not read the arguments, so one call is checked (that it stands for
    all tuples is not part of the statement; the first branch of `implTotalOp_of_entries` shows it for any `args`) -/
def implTotalOp (chain : List Store) (op : OpDecl) : Bool :=
  if !hasTyped chain op.attr then okResult (getImpl chain op.attr [])
  else (C13.arities op).all fun k =>
    (C13.tuples (C13.universeFor k) k).all fun args => okResult (getImpl chain op.attr args)

/-- `get_impl` can only fail internally inside a store -/
theorem okResult_getImplFrom (i : Nat) (chain : List Store) (op : String) (args : List Dtype)
    (h : ∀ st ∈ chain, (storeGet st op args).isSome = true) :
    okResult (getImplFrom i chain op args) = true := by
  induction chain generalizing i with
  | nil => rfl
  | cons st rest ih =>
    unfold getImplFrom
    have hst := h st List.mem_cons_self
    cases hs : storeGet st op args with
    | none => rw [hs] at hst; exact absurd hst (by simp)
    | some b =>
      cases b with
      | true => rfl
      | false => exact ih (i + 1) fun st' h' => h st' (List.mem_cons_of_mem _ h')

def typedTotal (sigs : List Sig) (ars : List Nat) : Bool :=
  match Trie.build sigs with
  | none => false
  | some t => ars.all fun k =>
      C13.allLive (C13.universeFor k) k [⟨[], t, []⟩] fun args => resolveTrieF t args != .internalError

/-- stated per store entry: the same stores stand in several chains and the same typed signatures
    under several operators, and the kernel then evaluates each once -/
def entryOk (st : Store) (op : OpDecl) : Bool :=
  match st.find? (·.1 == op.attr) with
  | none => true
  | some (_, _, typed) => typed.isEmpty || typedTotal typed (C13.arities op)

theorem storeGet_isSome (st : Store) (op : String) (args : List Dtype)
    (h : ∀ nm dflt typed, st.find? (·.1 == op) = some (nm, dflt, typed) →
      typed.isEmpty = true ∨ ∃ t, Trie.build typed = some t ∧ resolveTrie t args ≠ .internalError) :
    (storeGet st op args).isSome = true := by
  unfold storeGet
  split
  · rfl
  · rename_i nm dflt typed hf
    rcases h nm dflt typed hf with he | ⟨t, ht, hr⟩
    · rw [if_pos he]; rfl
    · split
      · rfl
      · rw [ht]
        cases hres : resolveTrie t args with
        | internalError => exact absurd hres hr
        | _ => simp only [hres]; rfl

theorem implTotalOp_of_entries (chain : List Store) (op : OpDecl)
    (h : chain.all (entryOk · op) = true) : implTotalOp chain op = true := by
  rw [List.all_eq_true] at h
  unfold implTotalOp
  split
  · rename_i hty
    simp only [hasTyped, Bool.not_eq_true', List.any_eq_false] at hty
    refine okResult_getImplFrom _ _ _ _ fun st hst => storeGet_isSome st _ _ fun nm dflt typed hf => Or.inl ?_
    simpa [hf] using hty st hst
  · simp only [List.all_eq_true]
    intro k hk args hargs
    refine okResult_getImplFrom _ _ _ _ fun st hst => storeGet_isSome st _ _ fun nm dflt typed hf => ?_
    have he := h st hst
    simp only [entryOk, hf, Bool.or_eq_true] at he
    refine he.imp_right fun htot => ?_
    unfold typedTotal at htot
    split at htot
    · cases htot
    · rename_i t ht
      refine ⟨t, ht, fun hr => ?_⟩
      have htk := List.all_eq_true.1 htot k hk
      rw [C13.allLive_eq _ _ _ _ fun a h => by rw [resolveTrieF_dead t a h]; rfl, ← C13.tuples_all] at htk
      have := List.all_eq_true.1 htk args hargs
      simp [resolveTrieF_eq, hr] at this

theorem entries_ok :
    Gen.backendChains.all (fun bc => Gen.opTable.all (fun op => bc.2.all (entryOk · op))) = true := by
  decide +kernel

/-- **`get_impl` is total**: on every backend chain, for every operator of the catalogue, `implTotalOp` holds -/
theorem impl_total :
    Gen.backendChains.all (fun bc => Gen.opTable.all (fun op => implTotalOp bc.2 op)) = true := by
  simp only [List.all_eq_true]
  intro bc hbc op hop
  exact implTotalOp_of_entries bc.2 op (List.all_eq_true.1 (List.all_eq_true.1 entries_ok bc hbc) op hop)

def coreOps : List String :=
  ["add", "sub", "mul", "truediv", "floordiv", "mod", "neg", "equal", "not_equal", "less_than", "less_equal",
   "greater_than", "greater_equal", "bool_and", "bool_or", "bool_xor", "bool_invert", "is_null", "is_not_null",
   "fill_null", "is_in", "coalesce", "horizontal_max", "horizontal_min", "sum", "min", "max", "mean", "count", "count_star",
   "row_number", "rank", "dense_rank", "shift"]

/-- **every backend chain implements the core operators** (arithmetic, comparison, boolean, null
    handling, plain aggregates, ranking, `shift`) in one of its classes.  Only typed implementations
    read the arguments, and a tuple they do not match falls back to the store's default: whatever
    the arity, `[.int64, .int64]` asks for a default implementation or a typed one for two `Int64`. -/
theorem core_ops_supported :
    Gen.backendChains.all (fun bc => coreOps.all (fun op =>
      match getImpl bc.2 op [.int64, .int64] with
      | .found _ => true
      | _ => false)) = true := by
  decide +kernel

-- `notSupported` (here from the empty chain) counts as ok
example : okResult (getImpl [] "add" []) = true := by decide

end Pdt.C19
