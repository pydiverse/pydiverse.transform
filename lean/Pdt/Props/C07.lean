/-
  C07 — union stacks rows by column name; distinct removes duplicates.
-/
import Pdt.Props.Lemmas.Run
import Pdt.Props.Lemmas.Assoc
import Pdt.Model.Verbs

namespace Pdt.C07
open Pdt Pdt.Spec

/-- `union` (all): the left rows then the right rows, each with its multiplicity, matched by name -/
theorem union_all_rows (db : DB) (i : NodeId) (c r : Ast) :
    (run db (.union i c r false)).rows =
      (run db c).rows.map (projTo (run db c).visible (run db c).visible) ++
      (run db r).rows.map (projTo (run db c).visible (run db r).visible) :=
  rfl

theorem union_all_count (db : DB) (i : NodeId) (c r : Ast) :
    (run db (.union i c r false)).rows.length = (run db c).rows.length + (run db r).rows.length := by
  rw [union_all_rows]; simp

theorem union_visible (db : DB) (i : NodeId) (c r : Ast) (d : Bool) :
    (run db (.union i c r d)).visible = (run db c).visible ∧ (run db (.union i c r d)).group = [] :=
  ⟨rfl, rfl⟩

theorem get_map_of_mem (f : String × Uid → Val) : ∀ (l : List (String × Uid)), (l.map (·.2)).Nodup →
    ∀ e ∈ l, Row.get (l.map (fun e => (e.2, f e))) e.2 = f e :=
  fun _ hnd _ he => Row.get_map_of_mem (fun e : String × Uid => e.2) f hnd he

/-- matching is by *name*, not by position: the value of the result column named `n` in a row that
    came from the right table is the right row's value of the right column named `n` -/
theorem union_by_name (lvis tvis : List (String × Uid)) (row : Row) (n : String) (lu tu : Uid)
    (hl : (n, lu) ∈ lvis) (ht : tvis.find? (·.1 == n) = some (n, tu))
    (hnd : (lvis.map (·.2)).Nodup) :
    (projTo lvis tvis row).get lu = row.get tu := by
  unfold projTo
  rw [get_map_of_mem _ lvis hnd (n, lu) hl]
  simp only [ht]

theorem normVal_fst (fc : List Uid) (e : Uid × Val) : (normVal fc e).1 = e.1 := by
  unfold normVal
  split
  · split <;> rfl
  · rfl

/-- hidden columns of either side never leak: a result row holds exactly the left visible identities -/
theorem union_no_hidden (db : DB) (i : NodeId) (c r : Ast) (d : Bool) (row : Row)
    (h : row ∈ (run db (.union i c r d)).rows) : row.map (·.1) = (run db c).visible.map (·.2) := by
  rw [run_union] at h
  have hall : ∀ row ∈ (run db c).rows.map (projTo (run db c).visible (run db c).visible) ++
      (run db r).rows.map (projTo (run db c).visible (run db r).visible), row.map (·.1) = (run db c).visible.map (·.2) := by
    intro row hr
    rcases List.mem_append.1 hr with hr | hr <;> obtain ⟨x, _, rfl⟩ := List.mem_map.1 hr <;> simp [projTo, List.map_map, Function.comp_def]
  cases d
  · exact hall row h
  · -- the numeric normalisation changes values, not identities
    obtain ⟨r0, hr0, rfl⟩ := List.mem_map.1 (List.mem_eraseDups.1 h)
    rw [← hall r0 hr0, List.map_map]
    exact List.map_congr_left (fun e _ => normVal_fst _ e)

theorem eraseDups_nodup {α} [BEq α] [LawfulBEq α] : ∀ (l : List α), l.eraseDups.Nodup :=
  nodup_eraseDups

/-- `distinct=True`: every distinct row of the stack, after `normNumCols`, exactly once; nulls compare equal
    because rows are compared as values -/
theorem union_distinct_rows (db : DB) (i : NodeId) (c r : Ast) :
    (run db (.union i c r true)).rows.Nodup ∧
    ∀ row, row ∈ (run db (.union i c r true)).rows ↔ row ∈ normNumCols (run db (.union i c r false)).rows :=
  ⟨eraseDups_nodup _, fun _ => List.mem_eraseDups⟩

/-- the normalisation only touches integers in columns that hold a float: without floats it is the identity -/
theorem normNumCols_no_float (rows : List Row) (h : ∀ r ∈ rows, ∀ e ∈ r, ∀ b, e.2 ≠ .flt b) : normNumCols rows = rows := by
  have hf : floatCols rows = [] := by
    unfold floatCols
    have : rows.flatMap (fun r => r.filterMap floatKey) = [] := by
      rw [List.flatMap_eq_nil_iff]
      intro r hr
      rw [List.filterMap_eq_nil_iff]
      intro e he
      unfold floatKey
      cases hv : e.2 with
      | flt b => exact absurd hv (h r hr e he b)
      | _ => rfl
    rw [this]; rfl
  unfold normNumCols
  rw [hf]
  refine (List.map_congr_left (fun r _ => ?_)).trans (List.map_id rows)
  refine (List.map_congr_left (fun e _ => ?_)).trans (List.map_id r)
  simp only [id, normVal, List.contains_nil, Bool.false_eq_true, ↓reduceIte]
  split <;> rfl

/-- the first three checks of `_union_impl`, in the order of the code: backend, grouping, names (the fourth
    refusal of `applyVerb`, no common type by `lcaType`, is not covered) -/
def unionCheck (t r : Tbl) : Option Err :=
  if t.cache.backend != r.cache.backend then some .type
  else if !t.cache.partitionBy.isEmpty || !r.cache.partitionBy.isEmpty then some .value
  else if !(t.cache.columns.all r.cache.columns.contains && r.cache.columns.all t.cache.columns.contains) then some .value
  else none

theorem union_refused (env : Env) (src right : String) (t r : Tbl) (d : Bool) (e : Err)
    (hs : env.table? src = some t) (hr : (env.freshNode).2.table? right = some r) (hc : unionCheck t r = some e) :
    applyVerb env src (.union right d) = .error e := by
  unfold unionCheck at hc
  unfold applyVerb
  simp only [hs]
  split at hc
  · rename_i hb
    injection hc with hc; subst hc
    simp [hr, hb, bind, Except.bind, throw, throwThe, MonadExceptOf.throw]
  · rename_i hb
    split at hc
    · rename_i hg
      injection hc with hc; subst hc
      simp [hr, hb, hg, bind, Except.bind, throw, throwThe, MonadExceptOf.throw]
    · rename_i hg
      split at hc
      · rename_i hn
        injection hc with hc; subst hc
        simp [hr, hb, hg, hn, bind, Except.bind, throw, throwThe, MonadExceptOf.throw]
      · cases hc

/-- scope after a union: only the visible left columns survive (`C11.union_columns` gives the names), as
    ordinary columns of the new relation: not constant, element-wise (D73) -/
theorem union_scope (c r : Cache) (i : NodeId) (ch rt : Ast) (d : Bool) :
    (c.update (.union i ch rt d) (some r)).cols =
      (c.cols.filter (fun e => c.uuidToName.any (·.1 == e.1))).map
        (fun e => (e.1, { e.2 with dtype := e.2.dtype.withoutConst, ftype := .elementWise })) := by
  simp [Cache.update]

theorem union_cols_plain (c r : Cache) (i : NodeId) (ch rt : Ast) (d : Bool) :
    ∀ e ∈ (c.update (.union i ch rt d) (some r)).cols, e.2.ftype = .elementWise ∧ ∃ x ∈ c.cols, e.2.dtype = x.2.dtype.withoutConst := by
  intro e he
  rw [union_scope] at he
  obtain ⟨x, hx, rfl⟩ := List.mem_map.1 he
  exact ⟨rfl, x, (List.mem_filter.1 hx).1, rfl⟩

end Pdt.C07
